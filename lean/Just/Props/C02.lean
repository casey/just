/-
C02 — fail-stop: a failing command halts the run with its exit status.

Theorems about `Just.Run` (model of `run_recipe`, `run_linewise`, `run_script`, `Error::code`):
whenever a run ends with an error, the event list *ends* with the command whose status is that
error (nothing is started afterwards: no later line, dependent, subsequent or later command-line
recipe), or with the declined confirmation prompt; the exit code is the command's status
(128+n for a signal); `-` lines never stop the run; an unconfirmed recipe runs nothing.
-/
import Just.Lemmas.RunSpec
namespace Just.Props.C02
open Just.Run

def StopsAt (env : Env) (es : List Ev) : Err → Prop
  | .code n => EndsFailed env es (.code n)
  | .signal n => EndsFailed env es (.signal n)
  | .notConfirmed => ∃ pre ri, es = pre ++ [Ev.prompt ri]
  | .fuel => True
  | .internal => True

theorem StopsAt.prepend {env : Env} {es : List Ev} {e : Err} (p : List Ev)
    (h : StopsAt env es e) : StopsAt env (p ++ es) e := by
  cases e with
  | code n => exact EndsFailed.prepend p h
  | signal n => exact EndsFailed.prepend p h
  | notConfirmed =>
    obtain ⟨pre, ri, hes⟩ := h
    exact ⟨p ++ pre, ri, by rw [hes, List.append_assoc]⟩
  | fuel => trivial
  | internal => trivial

/-- **exit status**: `Error::code` of a failed command is its status, 128+n for a signal. -/
theorem exit_code_table (s : Status) (e : Err) (h : s.toErr = some e) :
    e.exit = match s with
      | .ok => 0
      | .code n => n
      | .signal n => 128 + n := by
  cases s <;> simp [Status.toErr] at h <;> (subst h; rfl)

theorem exit_not_confirmed : Err.notConfirmed.exit = 1 := rfl

theorem StopsAt.of_leaf {env : Env} {es : List Ev} {e : Err} (h : e = .internal ∨ EndsFailed env es e) :
    StopsAt env es e := by
  rcases h with rfl | h
  · trivial
  · cases e with
    | code n => exact h
    | signal n => exact h
    | _ => obtain ⟨_, _, c, _, _, hs⟩ := h; cases hc : env.status c <;> simp [hc, Status.toErr] at hs

def Stops (env : Env) {α : Type} (x : Res α) : Prop := ∀ e, x.2 = .error e → StopsAt env x.1 e

theorem Stops.andThen {env : Env} {α β : Type} {x : Res α} {f : List Ev → α → Res β} (hx : Stops env x)
    (hf : ∀ e a, Stops env (f e a)) : Stops env (andThen x f) := by
  obtain ⟨e1, e | a⟩ := x
  · intro e' h; cases h; exact hx e rfl
  · intro e' h; exact (hf e1 a e' h).prepend e1

theorem Stops.of_leafRun {cfg : Cfg} {env : Env} {α : Type} {x : Res α} (h : LeafRun cfg env x) : Stops env x :=
  fun e he => .of_leaf (h.fails e he)

theorem failstop_all {P : Prog} {cfg : Cfg} {env : Env} {c : Call} {es : List Ev} {e : Err}
    (h : Runs P cfg env c es (.error e)) : StopsAt env es e :=
  Runs.error_cases (q := fun _ es e => StopsAt env es e) (fun _ _ _ _ _ => trivial) (fun _ ri => ⟨[], ri, rfl⟩)
    (fun _ pre _ _ h => (StopsAt.of_leaf h).prepend pre) (fun pre _ ih => ih.prepend pre) h

/-- **fail-stop for one invocation**: if running a recipe (with all its dependencies and
subsequents) ends with error `e`, the events end with the command whose status is `e` — nothing at
all is started after it — or, for "not confirmed", with the declined prompt.  For the model's own errors `internal`
and `fuel`, which are not statuses of commands, `StopsAt` holds trivially. -/
theorem failstop (P : Prog) (cfg : Cfg) (env : Env) (fuel : Nat) (sub : Bool) (ri : Nat)
    (given : Args) (ran : Ran) (k : Nat) (es : List Ev) (e : Err)
    (h : runRecipe P cfg env fuel sub ri given ran k = (es, .error e)) : StopsAt env es e :=
  failstop_all (runRecipe_sound P cfg env fuel sub ri given ran k es _ h)

theorem runInvs_stops (P : Prog) (cfg : Cfg) (env : Env) (fuel : Nat) (invs : List Key) :
    ∀ ran k, Stops env (runInvs P cfg env fuel invs ran k) := by
  induction invs with
  | nil => intro _ _ _ h; cases h
  | cons inv invs ih =>
    intro ran k
    rw [runInvs_cons]
    exact Stops.andThen (fun e h => failstop P cfg env fuel false _ _ ran k _ e (Prod.ext rfl h)) fun _ _ => ih _ _

/-- **fail-stop for the whole command line**: `just` either exits 0, or exits with `e.exit` where
the run's events end at the failing command / declined prompt for `e`: no later line, dependent
recipe, subsequent dependency or later command-line recipe starts.  For the model's own errors `internal` and `fuel`,
which are not statuses of commands, `StopsAt` holds trivially. -/
theorem main_failstop (P : Prog) (cfg : Cfg) (env : Env) (invs : List Key) :
    (runMain P cfg env invs).2 = 0 ∨
      ∃ e, (runMain P cfg env invs).2 = e.exit ∧ StopsAt env (runMain P cfg env invs).1 e := by
  have h := (Stops.of_leafRun (runAssigns_leafRun (cfg := cfg) P.assigns)).andThen fun _ _ =>
    runInvs_stops P cfg env (P.recipes.length + 1) invs [] 0
  rw [runMain_eq]
  revert h
  generalize andThen (runAssigns cfg env P.assigns) _ = x
  obtain ⟨es, e | _⟩ := x
  · exact fun h => .inr ⟨e, rfl, h e rfl⟩
  · exact fun _ => .inl rfl

/-- **`-` lines never stop the run**, whatever status (exit code or signal) the command returns. -/
theorem infallible_never_stops (cfg : Cfg) (env : Env) (ri : Nat) (r : Recipe) (given : Args)
    (l : Line) (cmd : String) (h : l.infallible = true) :
    (runCmd cfg env ri r given l cmd).2 = .ok () := by
  unfold runCmd
  simp only
  split
  · rfl
  · split
    · rfl
    · simp

/-- a failing command on a line without `-` stops the recipe with that status -/
theorem fallible_stops (cfg : Cfg) (env : Env) (ri : Nat) (r : Recipe) (given : Args)
    (l : Line) (cmd : String) (e : Err) (hd : cfg.dryRun = false) (h : l.infallible = false)
    (hs : (env.status cmd).toErr = some e) :
    (runCmd cfg env ri r given l cmd).2 = .error e := by
  unfold runCmd
  simp [hd, hs, h]

/-- **an unconfirmed `[confirm]` recipe runs nothing**: only the prompt happens — no parameter
backtick, no dependency, no line — and the run fails with "not confirmed" (exit 1). -/
theorem unconfirmed_runs_nothing (P : Prog) (cfg : Cfg) (env : Env) (fuel : Nat) (sub : Bool)
    (ri : Nat) (r : Recipe) (given : Args) (ran : Ran) (k : Nat)
    (hr : P.recipes[ri]? = some r) (hnew : (ri, given) ∉ ran) (hc : r.confirm = true)
    (hy : cfg.yes = false) (hans : env.ans k = false) :
    runRecipe P cfg env (fuel + 1) sub ri given ran k = ([Ev.prompt ri], .error .notConfirmed) := by
  rw [runRecipe]
  simp [hnew, hr, hc, hy, hans]

/-- with `--yes` nobody is asked -/
theorem yes_never_prompts (cfg : Cfg) (r : Recipe) (ri : Nat) (hy : cfg.yes = true) :
    promptOf cfg r ri = [] := by
  unfold promptOf; simp [hy]

/-- non-vacuity: a two-line recipe whose first line fails with status 3 -/
example :
    runLines {} ⟨fun c => if c = "a" then .code 3 else .ok, fun _ => "", fun _ => true⟩ 0
        { params := [], priors := [], subs := [], body := [] } [] []
        [⟨false, false, [.lit "a"]⟩, ⟨false, false, [.lit "b"]⟩]
      = ([.echo "a", .spawn 0 [] "a"], .error (.code 3)) := by
  simp [runLines, evalList, evalA, runCmd, echoes, concat, Cfg.loquacious, Status.toErr]

/-- **only `y` and `yes` confirm**: an answer is accepted exactly when, blanks around it removed and
letter case ignored, it is `y` or `yes` — so `ye`, `yess`, `yes please`, `y/n`, the empty line and
everything else decline, and a declined recipe runs nothing (`unconfirmed_runs_nothing`) -/
theorem confirm_accepts_iff (line : String) :
    confirmAccepts line = true ↔
      (trimBlanks line.toList).map Char.toLower = ['y'] ∨ (trimBlanks line.toList).map Char.toLower = ['y', 'e', 's'] := by
  simp [confirmAccepts]

example : confirmAccepts " Yes\t" = true ∧ confirmAccepts "Y" = true ∧ confirmAccepts "ye" = false ∧
    confirmAccepts "yes please" = false ∧ confirmAccepts "" = false ∧ confirmAccepts "y/n" = false := by decide +kernel

end Just.Props.C02
