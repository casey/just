/-
C08 — exactly the declared variables are exported to child processes.
-/
import Just.Model.EnvExport
namespace Just.Props.C08
open Just.EnvExport

/-- value exported by one scope for `n` (the last exported binding of that name) -/
def exportedIn (setExport : Bool) : Scope → String → Option String
  | [], _ => none
  | b :: bs, n =>
    match exportedIn setExport bs n with
    | some v => some v
    | none => if isExported setExport b && b.name = n then some b.value else none

/-- innermost exported binding of `n` along a chain given outermost first -/
def lookupExported (setExport : Bool) : List Scope → String → Option String
  | [], _ => none
  | s :: rest, n =>
    match lookupExported setExport rest n with
    | some v => some v
    | none => exportedIn setExport s n

theorem exportBindings_eq (se : Bool) (s : Scope) (e : Env) (n : String) :
    exportBindings se s e n = match exportedIn se s n with
      | some v => some v
      | none => e n := by
  fun_induction exportBindings se s e <;> grind [exportedIn, setEnv]

theorem removeAll_eq (un : List String) (e : Env) (n : String) :
    removeAll un e n = if n ∈ un then none else e n := by
  fun_induction removeAll un e <;> grind [removeEnv]

/-- no scope other than the innermost exporting one exports a name that is unexported (the analyzer
rejects `unexport X` next to a variable X of the same module; the hypothesis is about names
exported by parent modules and parameters) -/
def NoConflict (se : Bool) (un : List String) : List Scope → Prop
  | [] => True
  | s :: rest => (rest ≠ [] → ∀ n ∈ un, exportedIn se s n = none) ∧ NoConflict se un rest

/-- **the environment set equation**: for every name, the child sees the innermost exported binding
among the enclosing scopes; otherwise nothing if the name is unexported; otherwise the value it had
before (dotenv entry or just's own environment). -/
theorem export_scopes_equation (se : Bool) (un : List String) (chain : List Scope) (e : Env)
    (n : String) (hne : chain ≠ []) (hnc : NoConflict se un chain) :
    exportScopes se un chain e n = match lookupExported se chain n with
      | some v => some v
      | none => if n ∈ un then none else e n := by
  induction chain generalizing e with
  | nil => exact absurd rfl hne
  | cons s rest ih =>
    simp only [exportScopes, lookupExported]
    cases rest with
    | nil =>
      simp only [exportScopes, lookupExported]
      rw [exportBindings_eq, removeAll_eq]
    | cons s2 rest2 =>
      rw [ih _ (by simp) hnc.2]
      cases lookupExported se (s2 :: rest2) n with
      | some v => rfl
      | none =>
        simp only [exportBindings_eq, removeAll_eq]
        split
        · rw [hnc.1 (by simp) n ‹_›]
        · rfl

theorem setAll_eq (kvs : List (String × String)) (e : Env) (n : String) (hnodup : (kvs.map Prod.fst).Nodup) :
    setAll kvs e n = match kvs.lookup n with
      | some v => some v
      | none => e n := by
  induction kvs generalizing e with
  | nil => rfl
  | cons kv kvs ih =>
    obtain ⟨k, v⟩ := kv
    obtain ⟨hk, hnd⟩ := List.nodup_cons.mp hnodup
    have hk' : ∀ kv' ∈ kvs, kv'.1 ≠ k := fun kv' h e => hk (List.mem_map.mpr ⟨kv', h, e⟩)
    rw [setAll, ih _ hnd, List.lookup_cons]
    by_cases hn : n = k
    · subst hn
      have : kvs.lookup n = none := List.lookup_eq_none_iff.mpr fun p hp => by simpa using (hk' p hp).symm
      simp [this, setEnv]
    · simp [setEnv, hn, show (n == k) = false by simpa using hn]

/-- **C08 for every site**: the child's environment is just's own environment plus the dotenv
entries (which never shadow an existing variable), minus the unexported names, plus the exported
bindings of the enclosing scopes — innermost first — and never those of the scope being defined. -/
theorem env_set_equation (base : Env) (dotenv : List (String × String)) (se : Bool)
    (un : List String) (chain : List Scope) (n : String)
    (hne : chain.dropLast ≠ []) (hnc : NoConflict se un chain.dropLast)
    (hfresh : ∀ kv ∈ dotenv, base kv.1 = none) (hnodup : (dotenv.map Prod.fst).Nodup) :
    childEnv base dotenv se un chain n = match lookupExported se chain.dropLast n with
      | some v => some v
      | none => if n ∈ un then none else
        match dotenv.lookup n with
        | some v => some v
        | none => base n := by
  unfold childEnv
  rw [export_scopes_equation se un _ _ n hne hnc, setAll_eq dotenv base n hnodup]

/-- **the scope being defined is invisible**: bindings of the innermost scope never reach the
child (backticks and `shell()` of a module do not see that module's own exported variables;
a parameter default does not see earlier parameters) -/
theorem current_scope_invisible (base : Env) (dotenv : List (String × String)) (se : Bool)
    (un : List String) (outer : List Scope) (cur cur' : Scope) :
    childEnv base dotenv se un (outer ++ [cur]) = childEnv base dotenv se un (outer ++ [cur']) := by
  unfold childEnv
  simp

/-- **built-in constants are never exported**, with or without `set export` -/
theorem constants_never_exported (se : Bool) (b : Binding) (hc : b.constant = true)
    (he : b.exported = false) : isExported se b = false := by
  simp [isExported, hc, he]

/-- under `set export` every non-constant binding is exported; without it only marked ones -/
theorem exported_iff (se : Bool) (b : Binding) :
    isExported se b = (b.exported || (se && !b.constant)) := rfl

/-! ### the hypothesis is needed: a known corner of the code -/

/-- A parent module exports `X`, the submodule lists `unexport X`: for a recipe of the submodule
the removal is repeated at every inner level, so `X` is gone, which is what the statement wants
(`minus every such name listed in unexport`).  But an exported *parameter* `$X` of that recipe is
set after the removal of its own level and survives: plus wins over minus at the innermost
level only. -/
theorem unexport_vs_parameter :
    let parent : Scope := [⟨"X", "from-parent", true, false⟩]
    let params : Scope := [⟨"X", "from-param", true, false⟩]
    (exportScopes false ["X"] [parent, params] (fun _ => none)) "X" = some "from-param" ∧
    (exportScopes false ["X"] [parent, []] (fun _ => none)) "X" = none := by
  decide +kernel

/-- non-vacuity of `NoConflict` and of the equation on a three-level chain -/
example : NoConflict false ["U"] [[⟨"A", "1", true, false⟩], [⟨"B", "2", false, false⟩], [⟨"U", "3", true, false⟩]] := by
  refine ⟨fun _ n hn => ?_, fun _ n hn => ?_, fun h => absurd rfl h, trivial⟩ <;>
    (simp at hn; subst hn; decide)

theorem exportedIn_none (se : Bool) (n : String) : ∀ (sc : Scope), n ∉ sc.map (·.name) →
    exportedIn se sc n = none := by
  intro sc; fun_induction exportedIn se sc n <;> grind

theorem exportedIn_of_mem (se : Bool) : ∀ (sc : Scope), (sc.map (·.name)).Nodup →
    ∀ b ∈ sc, isExported se b = true → exportedIn se sc b.name = some b.value := by
  intro sc
  induction sc with
  | nil => intro _ b hb; cases hb
  | cons a rest ih =>
    intro hnd b hb hexp
    simp only [List.map_cons, List.nodup_cons] at hnd
    simp only [exportedIn]
    rcases List.mem_cons.mp hb with rfl | hb
    · simp [exportedIn_none se b.name rest hnd.1, hexp]
    · rw [ih hnd.2 b hb hexp]

theorem exportScopes_append_last (se : Bool) (un : List String) (s : Scope) :
    ∀ (outer : List Scope) (e : Env), exportScopes se un (outer ++ [s]) e =
      exportBindings se s (removeAll un (exportScopes se un outer e)) := by
  intro outer
  induction outer with
  | nil => intro e; rfl
  | cons o rest ih => intro e; simp only [List.cons_append, exportScopes]; rw [ih]

end Just.Props.C08
