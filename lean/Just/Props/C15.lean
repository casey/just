/-
C15 — imports merge into the importer; modules are isolated namespaces.
-/
import Just.Lemmas.LoaderFuel
import Just.Lemmas.Path
namespace Just.Props.C15
open Just.Imports

/-- **a cyclic import or module chain is never followed**: every source that is ever loaded has a
repetition-free chain of files leading to it (so no file is loaded below itself), whatever the
graph — cyclic or not — and however long the loader runs. -/
theorem loaded_chains_nodup (fs : FS) (fuel : Nat) (stack : List Source) (depths : List (Nat × Nat))
    (log : List Source) (res : List (Nat × Nat) × List Source)
    (hst : ∀ s ∈ stack, GoodSource s) (hlog : ∀ s ∈ log, GoodSource s)
    (h : loadLoop fs fuel stack depths log = .ok res) : ∀ s ∈ res.2, GoodSource s := by
  fun_induction loadLoop fs fuel stack depths log with
  | case1 | case3 | case4 => cases h
  | case2 => cases h; exact hlog
  | case5 fuel cur stack depths log file hfile ss hss ih =>
    have hcur := hst cur (List.mem_cons_self ..)
    refine ih (fun s hs => ?_) (fun s hs => ?_) h
    · exact (List.mem_append.mp hs).elim (fun hs => pushes_good hcur hss s (List.mem_reverse.mp hs))
        fun hs => hst s (List.mem_cons_of_mem _ hs)
    · exact (List.mem_append.mp hs).elim (hlog s) fun hs => List.mem_singleton.mp hs ▸ hcur

theorem load_chains_nodup (fs : FS) (fuel : Nat) (res : List (Nat × Nat) × List Source)
    (h : load fs fuel = .ok res) : ∀ s ∈ res.2, GoodSource s :=
  loaded_chains_nodup fs fuel _ _ _ res (fun s hs => List.mem_singleton.mp hs ▸ goodSource_root)
    (fun _ hs => by cases hs) h

/-- chains are bounded by the number of files, hence so is the nesting depth -/
theorem chain_bounded (nfiles : Nat) (s : Source) (hg : GoodSource s) (hf : ∀ f ∈ s.chain, f < nfiles) :
    s.depth < nfiles := by
  have := hg.length_le hf
  have := hg.len
  omega

/-- **a reference back into the chain is reported as circular** (import and mod alike) -/
theorem cycle_reported_import (cur : Source) (t : Nat) (opt : Bool) (rest : List Item) (h : t ∈ cur.chain) :
    pushes cur (.import (some t) opt :: rest) = .error (.circular cur.file t) := by
  simp [pushes, h]

theorem cycle_reported_module (cur : Source) (name : String) (t : Nat) (opt : Bool) (rest : List Item)
    (h : t ∈ cur.chain) :
    pushes cur (.module name (some t) opt :: rest) = .error (.circular cur.file t) := by
  simp [pushes, h]

/-- **`import?` / `mod?` of a missing file is ignored, a plain one is an error** -/
theorem optional_missing_ignored (cur : Source) (rest : List Item) (name : String) :
    pushes cur (.import none true :: rest) = pushes cur rest ∧
      pushes cur (.module name none true :: rest) = pushes cur rest := by
  simp [pushes]

theorem missing_is_error (cur : Source) (rest : List Item) (name : String) :
    pushes cur (.import none false :: rest) = .error (.missingImport cur.file) ∧
      pushes cur (.module name none false :: rest) = .error (.missingModule cur.file name) := by
  simp [pushes]

/-- importing one file along several paths is accepted: a diamond loads without error -/
example : (match load [⟨[.import (some 1) false, .import (some 2) false], false, false⟩,
    ⟨[.import (some 3) false], false, false⟩, ⟨[.import (some 3) false], false, false⟩,
    ⟨[.recipe "r"], false, false⟩] 20 with
    | .ok _ => true
    | .error _ => false) = true := by
  decide +kernel

/-! ### duplicate resolution: the shallower definition wins -/

theorem insertDef_mem (table : List Def) (d x : Def) (h : x ∈ insertDef table d) : x ∈ table ∨ x = d := by
  unfold insertDef at h
  grind

/-- invariant of the fold `dedup` over the definitions `seen` so far: `table` holds some of them, one per name, none deeper
than any seen of its name -/
structure TableInv (seen table : List Def) : Prop where
  sub : ∀ x ∈ table, x ∈ seen
  cover : ∀ y ∈ seen, ∃ x ∈ table, x.name = y.name ∧ x.depth ≤ y.depth
  uniq : ∀ x ∈ table, ∀ x' ∈ table, x.name = x'.name → x = x'

theorem insertDef_inv (seen table : List Def) (d : Def) (h : TableInv seen table) :
    TableInv (seen ++ [d]) (insertDef table d) := by
  have hsub : ∀ x ∈ insertDef table d, x ∈ seen ++ [d] := fun x hx =>
    (insertDef_mem table d x hx).elim (fun hx => List.mem_append_left _ (h.sub x hx))
      (· ▸ List.mem_append_right _ (List.mem_singleton_self _))
  have hcov : ∀ {t' : List Def}, (∀ y ∈ seen, ∃ x ∈ t', x.name = y.name ∧ x.depth ≤ y.depth) →
      (∃ x ∈ t', x.name = d.name ∧ x.depth ≤ d.depth) →
      ∀ y ∈ seen ++ [d], ∃ x ∈ t', x.name = y.name ∧ x.depth ≤ y.depth := by
    intro t' h1 h2 y hy
    rcases List.mem_append.mp hy with hy | hy
    · exact h1 y hy
    · cases List.mem_singleton.mp hy; exact h2
  -- `hsub` goes into the goal so that unfolding and the split on `find?` rewrite it too; each case takes it back for its table
  revert hsub
  unfold insertDef
  cases hf : table.find? (fun x => decide (x.name = d.name)) with
  | none =>
    have hnone : ∀ x ∈ table, x.name ≠ d.name := fun x hx => by simpa using List.find?_eq_none.mp hf x hx
    refine fun hsub => ⟨hsub, hcov (fun y hy => ?_) ⟨d, by simp, rfl, Nat.le_refl _⟩, fun x hx x' hx' hn => ?_⟩
    · obtain ⟨x, hx, hxy⟩ := h.cover y hy
      exact ⟨x, List.mem_append_left _ hx, hxy⟩
    · rcases List.mem_append.mp hx with h1 | h1 <;> rcases List.mem_append.mp hx' with h2 | h2
      · exact h.uniq x h1 x' h2 hn
      · cases List.mem_singleton.mp h2; exact absurd hn (hnone x h1)
      · cases List.mem_singleton.mp h1; exact absurd hn.symm (hnone x' h2)
      · rw [List.mem_singleton.mp h1, List.mem_singleton.mp h2]
  | some old =>
    have hold : old ∈ table := List.mem_of_find?_eq_some hf
    have holdn : old.name = d.name := by simpa using List.find?_some hf
    simp only
    split
    · rename_i hle
      -- the replacement keeps every entry's name and raises no depth: the entry replaced is `old`
      have hrep : ∀ x ∈ table, (if x.name = d.name then d else x).name = x.name ∧
          (if x.name = d.name then d else x).depth ≤ x.depth := by
        intro x hx
        split
        · rename_i hxd
          cases h.uniq x hx old hold (hxd.trans holdn.symm)
          exact ⟨holdn.symm, hle⟩
        · exact ⟨rfl, Nat.le_refl _⟩
      refine fun hsub => ⟨hsub, hcov (fun y hy => ?_)
        ⟨_, List.mem_map_of_mem hold, by simp [holdn], by simp [holdn]⟩, fun x hx x' hx' hn => ?_⟩
      · obtain ⟨x, hx, hn, hd⟩ := h.cover y hy
        exact ⟨_, List.mem_map_of_mem hx, (hrep x hx).1.trans hn, Nat.le_trans (hrep x hx).2 hd⟩
      · obtain ⟨y, hy, rfl⟩ := List.mem_map.mp hx
        obtain ⟨y', hy', rfl⟩ := List.mem_map.mp hx'
        rw [h.uniq y hy y' hy' ((hrep y hy).1.symm.trans (hn.trans (hrep y' hy').1))]
    · exact fun hsub => ⟨hsub, hcov h.cover ⟨old, hold, holdn, by omega⟩, h.uniq⟩

theorem dedup_inv (defs : List Def) : TableInv defs (dedup defs) := by
  have : ∀ (ds seen table : List Def), TableInv seen table →
      TableInv (seen ++ ds) (ds.foldl insertDef table) := by
    intro ds
    induction ds with
    | nil => intro seen table h; simpa using h
    | cons d ds ih => intro seen table h; simpa using ih _ _ (insertDef_inv seen table d h)
  simpa [dedup] using this defs [] [] ⟨nofun, nofun, nofun⟩

/-- **a shallower definition overrides a deeper one**: in the merged table every name that is
defined anywhere in the module's files appears exactly once, and the surviving definition is one of
MINIMAL depth among all definitions of that name. -/
theorem shallower_wins (defs : List Def) :
    (∀ y ∈ defs, ∃ x ∈ dedup defs, x.name = y.name ∧ x.depth ≤ y.depth) ∧
    (∀ x ∈ dedup defs, x ∈ defs) ∧
    (∀ x ∈ dedup defs, ∀ x' ∈ dedup defs, x.name = x'.name → x = x') :=
  ⟨(dedup_inv defs).cover, (dedup_inv defs).sub, (dedup_inv defs).uniq⟩

/-! ### imports contribute, modules are isolated -/

theorem recipesOf_file (fs : FS) (depths : List (Nat × Nat)) (f : Nat) (d : Def)
    (h : d ∈ recipesOf fs depths f) : d.file = f := by
  unfold recipesOf at h
  split at h
  · cases h
  · obtain ⟨it, _, hit⟩ := List.mem_filterMap.mp h
    split at hit <;> cases hit
    rfl

theorem analyzeModule_recipes {fs : FS} {depths : List (Nat × Nat)} {root : Nat} {t : ModuleTable}
    (h : analyzeModule fs depths root = .ok t) :
    t.recipes = dedup ((processed fs root).flatMap (recipesOf fs depths)) := by
  revert h
  fun_cases analyzeModule fs depths root <;> intro h <;> cases h
  rfl

/-- **a module's recipes come only from its own import closure** (names of other modules are
neither visible nor can they clash): every recipe of the merged table was defined in one of the
files the module processed. -/
theorem modules_isolated (fs : FS) (depths : List (Nat × Nat)) (root : Nat) (t : ModuleTable)
    (h : analyzeModule fs depths root = .ok t) : ∀ d ∈ t.recipes, d.file ∈ processed fs root := by
  intro d hd
  rw [analyzeModule_recipes h] at hd
  obtain ⟨f, hf, hdf⟩ := List.mem_flatMap.mp ((dedup_inv _).sub d hd)
  rw [recipesOf_file fs depths f d hdf]
  exact hf

/-- **every file of the closure contributes its recipes**: each recipe written in a processed file
is represented in the module's table (by itself or by an overriding definition of the same name) -/
theorem import_contributes (fs : FS) (depths : List (Nat × Nat)) (root : Nat) (t : ModuleTable)
    (h : analyzeModule fs depths root = .ok t) :
    ∀ f ∈ processed fs root, ∀ d ∈ recipesOf fs depths f, ∃ x ∈ t.recipes, x.name = d.name ∧ x.depth ≤ d.depth := by
  intro f hf d hd
  rw [analyzeModule_recipes h]
  exact (dedup_inv _).cover d (List.mem_flatMap.mpr ⟨f, hf, hd⟩)

/-- **The loader terminates on every file graph**, cyclic or not, existing files or dangling edges: with
fuel above `W (maxItems fs) fs.length` - a bound that depends only on the number of files and the
largest number of items in one file - the loop of `Compiler::compile` finishes (the model's fuel is
never exhausted).  Measure: a source whose chain has length L weighs W (N + 1 - L); whatever it pushes
has a longer repetition-free chain, and there are at most `maxItems` of them. -/
theorem loader_terminates (fs : FS) (fuel : Nat) (hf : W (maxItems fs) fs.length < fuel) :
    load fs fuel ≠ .error .fuel := by
  unfold load
  apply loadLoop_no_fuel fs fuel
  · intro s hs
    rw [List.mem_singleton.mp hs]
    exact ⟨goodSource_root, fun f hf' hne => absurd (List.mem_singleton.mp hf') hne⟩
  · simpa [weight] using hf

/-! ### one file, several spellings

The loader identifies a source by `parent.join(path).lexiclean()` (src/compiler.rs; model
`Just.Path`): a cycle is a cycle, and a file imported along two paths is one file, however the
statement spells the path. -/
open Just.Path in
/-- a `.` component anywhere, and a detour `name/..` anywhere, do not change which file a path names -/
theorem path_spelling_irrelevant (d t : List Comp) (x : List Char) :
    cleanComps (d ++ Comp.cur :: t) = cleanComps (d ++ t) ∧
    cleanComps (d ++ Comp.normal x :: Comp.parent :: t) = cleanComps (d ++ t) := by
  unfold cleanComps
  simp [List.foldl_append, cleanStep]

open Just.Path in
/-- non-vacuity, on texts: three spellings of `/p/f3.just` -/
example : lexiclean "/p/./f3.just".toList = "/p/f3.just".toList ∧
    lexiclean "/p/pad/../f3.just".toList = "/p/f3.just".toList ∧
    lexiclean "/p/sub/../f3.just".toList = lexiclean "/p/f3.just".toList := by
  -- a literal is `String.ofList` of its characters: no decoding of its bytes
  repeat rw [String.toList_ofList]
  decide +kernel

end Just.Props.C15
