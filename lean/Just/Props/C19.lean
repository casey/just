/-
C19 — unstable features are gated; stable ones never are.
-/
import Just.Model.Unstable
import Just.Generated.Tables
namespace Just.Props.C19
open Just.Unstable

mutual
/-- `e` contains an unstable construct (`&&`, `||`, a call of `which`) at SOME syntactic position -/
inductive Uses : Expr → Prop where
  | and (l r : Expr) : Uses (.and l r)
  | or (l r : Expr) : Uses (.or l r)
  | which (args : Exprs) : Uses (.call "which" args)
  | callArg {fn : String} {args : Exprs} : UsesAny args → Uses (.call fn args)
  | concatL {l r : Expr} : Uses l → Uses (.concat l r)
  | concatR {l r : Expr} : Uses r → Uses (.concat l r)
  | joinLL {l r : Expr} : Uses l → Uses (.joinL l r)
  | joinLR {l r : Expr} : Uses r → Uses (.joinL l r)
  | joinR {r : Expr} : Uses r → Uses (.joinR r)
  | condLhs {a b t e : Expr} {op : CondOp} : Uses a → Uses (.cond a op b t e)
  | condRhs {a b t e : Expr} {op : CondOp} : Uses b → Uses (.cond a op b t e)
  | condThen {a b t e : Expr} {op : CondOp} : Uses t → Uses (.cond a op b t e)
  | condElse {a b t e : Expr} {op : CondOp} : Uses e → Uses (.cond a op b t e)
  | assertLhs {a b m : Expr} {op : CondOp} : Uses a → Uses (.assert a op b m)
  | assertRhs {a b m : Expr} {op : CondOp} : Uses b → Uses (.assert a op b m)
  | assertMsg {a b m : Expr} {op : CondOp} : Uses m → Uses (.assert a op b m)
  | group {e : Expr} : Uses e → Uses (.group e)
inductive UsesAny : Exprs → Prop where
  | head {e : Expr} {es : Exprs} : Uses e → UsesAny (.cons e es)
  | tail {e : Expr} {es : Exprs} : UsesAny es → UsesAny (.cons e es)
end

theorem append_ne_nil_iff {α : Type} (a b : List α) : a ++ b ≠ [] ↔ a ≠ [] ∨ b ≠ [] := by
  cases a <;> simp

/-- **every use is recorded, wherever it stands**: an expression records an unstable feature iff
an unstable construct occurs at some position of it — operand of any operator, argument of any
function at any index, either side of a condition, either branch, assert message, inside
parentheses, at any nesting depth. -/
theorem every_use_recorded (e : Expr) : e.features ≠ [] ↔ Uses e := by
  constructor
  · induction e using Expr.rec (motive_2 := fun es => es.features ≠ [] → UsesAny es) with
    | _ => grind [Expr.features, Exprs.features, Uses, UsesAny]
  · intro h
    induction h using Uses.rec (motive_2 := fun es _ => es.features ≠ []) with
    | _ => simp [Expr.features, Exprs.features, *]

theorem usesAny_iff : ∀ (es : Exprs), es.features ≠ [] ↔ UsesAny es
  | .nil => ⟨fun h => (h rfl).elim, nofun⟩
  | .cons e es => by
    rw [Exprs.features, append_ne_nil_iff, every_use_recorded e, usesAny_iff es]
    exact ⟨fun h => h.elim .head .tail, fun h => by cases h <;> simp [*]⟩

theorem features_of_usesAny : ∀ (es : Exprs), UsesAny es → es.features ≠ [] :=
  fun es => (usesAny_iff es).mpr

theorem usesAny_of_features : ∀ (es : Exprs), es.features ≠ [] → UsesAny es :=
  fun es => (usesAny_iff es).mp

/-! ### the gate over the module tree -/

mutual
/-- `m'` is `m` or one of its descendants -/
inductive InTree : Module → Module → Prop where
  | self (m : Module) : InTree m m
  | sub {m m' : Module} : InSubs m.subs m' → InTree m m'
inductive InSubs : List Module → Module → Prop where
  | head {m : Module} {ms : List Module} {m' : Module} : InTree m m' → InSubs (m :: ms) m'
  | tail {m : Module} {ms : List Module} {m' : Module} : InSubs ms m' → InSubs (m :: ms) m'
end

mutual
theorem allowed_iff (optIn : Bool) : ∀ (m : Module), allowed optIn m = true ↔
    ∀ m', InTree m m' → (m'.features.isEmpty || optIn || m'.setUnstable) = true
  | .mk exprs sr si su subs => by
    simp only [allowed, Bool.and_eq_true]
    constructor
    · rintro ⟨h1, h2⟩ m' hin
      cases hin with
      | self => exact h1
      | sub hs => exact (allowedAll_iff optIn subs).mp h2 m' hs
    · intro h
      exact ⟨h _ (.self _), (allowedAll_iff optIn subs).mpr (fun m' hs => h m' (.sub hs))⟩
theorem allowedAll_iff (optIn : Bool) : ∀ (ms : List Module), allowedAll optIn ms = true ↔
    ∀ m', InSubs ms m' → (m'.features.isEmpty || optIn || m'.setUnstable) = true
  | [] => by
    simp only [allowedAll, true_iff]
    intro m' h; cases h
  | m :: ms => by
    simp only [allowedAll, Bool.and_eq_true]
    constructor
    · rintro ⟨h1, h2⟩ m' hin
      cases hin with
      | head ht => exact (allowed_iff optIn m).mp h1 m' ht
      | tail hs => exact (allowedAll_iff optIn ms).mp h2 m' hs
    · intro h
      exact ⟨(allowed_iff optIn m).mpr (fun m' ht => h m' (.head ht)),
        (allowedAll_iff optIn ms).mpr (fun m' hs => h m' (.tail hs))⟩
end

/-- **every use is gated**: without a global opt-in, the justfile is refused iff SOME module of
the tree — at any depth — records an unstable feature and does not itself `set unstable` -/
theorem refused_iff (m : Module) :
    allowed false m = false ↔
      ∃ m', InTree m m' ∧ m'.features ≠ [] ∧ m'.setUnstable = false := by
  rw [← Bool.not_eq_true, allowed_iff, Classical.not_forall]
  refine exists_congr fun m' => ?_
  simp

/-- **stable justfiles never need the opt-in**, wherever the features do not appear -/
theorem stable_never_gated (optIn : Bool) (m : Module) (h : ∀ m', InTree m m' → m'.features = []) :
    allowed optIn m = true := by
  apply (allowed_iff optIn m).mpr
  intro m' hin
  simp [h m' hin]

/-- **the global opt-in admits everything** -/
theorem opt_in_admits (m : Module) : allowed true m = true := by
  apply (allowed_iff true m).mpr
  intro m' _; simp

/-- `set unstable` counts only for the module that says it: a submodule using an unstable feature
is refused even if the root has `set unstable` -/
theorem set_unstable_is_per_module :
    allowed false (.mk [] false false true [.mk [.and (.str "a") (.str "b")] false false false []]) = false := by
  decide

/-- **`--summary` is exempt** -/
theorem summary_exempt (flag : Bool) (env : Option String) (m : Module) :
    proceeds flag env .summary m = true := by
  simp [proceeds, optIn, opt_in_admits]

/-- **`--fmt` itself is gated** -/
theorem fmt_gated (m : Module) (h : proceeds false none .fmt m = true) : m.setUnstable = true := by
  simp [proceeds, optIn, envTruthyImpl] at h
  exact h.2

/-! ### `JUST_UNSTABLE`: code vs README -/

/-- the documented falsy values are falsy in the code -/
theorem documented_falsy_are_falsy :
    envTruthyImpl (some "false") = false ∧ envTruthyImpl (some "0") = false ∧
      envTruthyImpl (some "") = false ∧ envTruthyImpl none = false := by
  decide +kernel

/-- but the code's falsy set is LARGER than the documented one: `JUST_UNSTABLE=no` does not
enable unstable features although the README says any value other than `false`, `0` or the empty
string does (recorded as a known finding) -/
theorem falsy_set_differs_from_readme :
    envTruthyDoc (some "no") = true ∧ envTruthyImpl (some "no") = false := by
  decide +kernel

/-! ### every way of loading: justfiles reached through `set fallback` -/

/-- **every justfile loaded on the way up is gated**: when a recipe found through `set fallback`
runs, the justfile that holds it and every justfile tried before it passed the gate -/
theorem fallback_every_level_gated (flag : Bool) (env : Option String) :
    ∀ (levels : List Level) (k0 k : Nat), runFallback flag env levels k0 = .ran k →
      k0 ≤ k ∧ ∀ j (hj : j < levels.length), j ≤ k - k0 → proceeds flag env .run (levels[j]).root = true := by
  intro levels k0 k h
  fun_induction runFallback flag env levels k0 with
  | case1 | case2 | case5 => cases h
  | case3 l rest k0 hp hr =>
    cases h
    refine ⟨Nat.le_refl _, fun j hj hle => ?_⟩
    obtain rfl : j = 0 := by omega
    simpa using hp
  | case4 l rest k0 hp hr hf ih =>
    obtain ⟨hle, hall⟩ := ih h
    refine ⟨by omega, fun j hj hjk => ?_⟩
    cases j with
    | zero => simpa using hp
    | succ j => exact hall j (Nat.lt_of_succ_lt_succ hj) (by omega)

/-- **a parent justfile that uses an unstable feature without the opt-in is refused, and nothing
runs** — also when it is only reached because the justfiles below it lack the recipe and have
`set fallback` (their own `set unstable` does not count for it) -/
theorem fallback_parent_refused (flag : Bool) (env : Option String) :
    ∀ (below : List Level) (parent : Level) (above : List Level) (k0 : Nat),
      (∀ l ∈ below, proceeds flag env .run l.root = true ∧ l.hasRecipe = false ∧ l.fallback = true) →
      proceeds flag env .run parent.root = false →
      runFallback flag env (below ++ parent :: above) k0 = .refused (k0 + below.length) := by
  intro below
  induction below with
  | nil => intro parent above k0 _ hp; simp [runFallback, hp]
  | cons l rest ih =>
    intro parent above k0 hb hp
    have hl := hb l (by simp)
    simp only [List.cons_append, runFallback, hl.1, hl.2.1, hl.2.2]
    have := ih parent above (k0 + 1) (fun l' hl' => hb l' (List.mem_cons_of_mem _ hl')) hp
    simp only [Bool.not_true, Bool.false_eq_true, if_false, if_true, this, List.length_cons]
    congr 1
    omega

/-- and stable justfiles are never refused on the way up -/
theorem fallback_stable_never_refused (flag : Bool) (env : Option String) :
    ∀ (levels : List Level) (k0 : Nat),
      (∀ l ∈ levels, ∀ m', InTree l.root m' → m'.features = []) →
      ∀ k, runFallback flag env levels k0 ≠ .refused k := by
  intro levels k0 hst k h
  fun_induction runFallback flag env levels k0 with
  | case1 | case3 | case5 => cases h
  | case2 l rest k0 hp =>
    have := stable_never_gated (optIn flag env .run) l.root (hst l (List.mem_cons_self ..))
    simp [proceeds, this] at hp
  | case4 l rest k0 hp hr hf ih => exact ih (fun l' hl' => hst l' (List.mem_cons_of_mem _ hl')) h

/-- non-vacuity: child with `set fallback` and `set unstable`, parent using `[script]` -/
example : runFallback false none
    [⟨.mk [] false false true [], false, true⟩, ⟨.mk [] true false false [], true, false⟩] 0 = .refused 1 := by
  decide

/-- **the gated features are the documented ones**: `enum UnstableFeature`, read from
src/unstable_feature.rs on every run, has exactly the five features the statement names (`--fmt`,
`&&` / `||`, `[script]`, `script-interpreter`, `which()`) — a sixth gated feature, or one dropped
from the gate, breaks this theorem -/
theorem gated_features_are_documented :
    [Feature.fmt, .logical, .script, .scriptInterpreter, .which].map Feature.variant = Generated.unstableFeatures :=
  rfl

end Just.Props.C19
