/-
C17 — listings agree with each other and with what can be run.
-/
import Just.Lemmas.Groups
import Just.Lemmas.Unsorted
namespace Just.Props.C17
open Just.Listing

theorem mem_sortByOffset (x : Recipe) : ∀ l : List Recipe, x ∈ sortByOffset l ↔ x ∈ l
  | [] => .rfl
  | r :: rs => by
    rw [sortByOffset, (insertBy_by.perm r _).mem_iff, List.mem_cons, List.mem_cons,
      mem_sortByOffset x rs]

/-- **listed iff public** (every recipe in the tables is enabled): in either order -/
theorem listed_iff_public (unsorted : Bool) (m : Mod) (r : Recipe) :
    r ∈ publicRecipes unsorted m ↔ r ∈ m.recipes ∧ r.isPrivate = false := by
  unfold publicRecipes
  cases unsorted <;> simp [mem_sortByOffset]

/-- **the views agree**: `--list`, the JSON dump's public recipes and the module's part of
`--summary` name the same recipes, in the same (name) order -/
theorem views_agree (m : Mod) :
    listNames false m = jsonPublicNames m ∧
      ∃ rest, summary false "" m = listNames false m ++ rest := by
  refine ⟨rfl, ?_⟩
  obtain ⟨n, rs, as, subs⟩ := m
  refine ⟨summarySubs false "" subs, ?_⟩
  simp only [summary, listNames]
  congr 1

theorem unsorted_same_set (m : Mod) (r : Recipe) :
    r ∈ publicRecipes true m ↔ r ∈ publicRecipes false m := by
  rw [listed_iff_public, listed_iff_public]

theorem choose_candidates (unsorted : Bool) (m : Mod) (r : Recipe) :
    r ∈ chooseHere unsorted m ↔ r ∈ m.recipes ∧ r.isPrivate = false ∧ r.minArgs = 0 := by
  unfold chooseHere
  simp [listed_iff_public, and_assoc]

/-- **every unlisted private name can still be run**: resolution never looks at privacy -/
theorem private_still_runnable (m : Mod) (r : Recipe) (hr : r ∈ m.recipes)
    (huniq : ∀ r' ∈ m.recipes, r'.name = r.name → r' = r) : runTarget m r.name = some r := by
  unfold runTarget findRecipe
  cases h : m.recipes.find? (fun x => decide (x.name = r.name)) with
  | none => exact absurd (List.find?_eq_none.mp h r hr) (by simp)
  | some x => rw [huniq x (List.mem_of_find?_eq_some h) (by simpa using List.find?_some h)]

/-- **`--show NAME` shows what `just NAME` runs** (repaired code), for recipes and for aliases —
including aliases whose target lives in a submodule — provided no recipe shadows the alias name
(the analyzer rejects an alias and a recipe with the same name) -/
theorem show_is_run_target (m : Mod) (n : String)
    (hdisj : ∀ a, findAlias m n = some a → findRecipe m n = none) :
    showTarget false m n = runTarget m n := by
  unfold showTarget runTarget
  cases ha : findAlias m n with
  | none => cases findRecipe m n <;> rfl
  | some a => simp [hdisj a ha]

/-- **the pinned `--show` could show a different recipe**: an alias to `foo::bar` next to a root
recipe `bar` showed the ROOT `bar` although `just b` runs `foo::bar` (witness; the repaired lookup
uses the resolved target) -/
theorem old_show_disagrees :
    let sub : Recipe := ⟨"bar", "foo::bar", false, 0, 0⟩
    let root : Recipe := ⟨"bar", "bar", false, 0, 1⟩
    let m : Mod := .mk "" [root] [⟨"b", false, sub⟩] [.mk "foo" [sub] [] []]
    showTarget true m "b" = some root ∧ runTarget m "b" = some sub := by
  decide +kernel

/-! ### what is displayed is what was declared -/

/-- **documentation**: the `[doc(…)]` attribute's value if there is one, nothing under a bare `[doc]`
(which hides the comment), else the comment above the recipe -/
theorem doc_displayed_is_declared (d : Decl) :
    (∀ x, d.docAttr = some (some x) → d.doc = some x) ∧
    (d.docAttr = some none → d.doc = none) ∧
    (d.docAttr = none → d.doc = d.comment) := by
  refine ⟨?_, ?_, ?_⟩ <;> intro h <;> simp_all [Decl.doc]

/-- **every entry of a recipe shows the declared name, parameters, documentation and aliases**, a
public recipe is listed once under each of its groups (once without heading if it has none), a
private one not at all -/
theorem entries_are_declared (as : List AliasOf) (d : Decl) :
    (∀ e ∈ entriesOf as d, e.signature = joinSp (d.name :: d.params) ∧ e.doc = d.doc ∧
      e.aliases = aliasesFor as d) ∧
    (d.isPrivate = true → entriesOf as d = []) ∧
    (d.isPrivate = false → (entriesOf as d).map Entry.heading =
      (if d.groups = [] then [none] else d.groups.map some)) := by
  fun_cases entriesOf as d <;> simp_all [List.map_map, Function.comp_def]
  · exact ⟨⟨rfl, rfl, rfl⟩, rfl⟩
  · exact ⟨fun _ _ => ⟨rfl, rfl, rfl⟩, fun _ _ => rfl⟩

/-- **alias annotations**: exactly the public aliases whose target is this recipe of this module -/
theorem alias_annotation_iff (as : List AliasOf) (d : Decl) (n : String) :
    n ∈ aliasesFor as d ↔ ∃ a ∈ as, a.name = n ∧ a.isPrivate = false ∧ a.targetHere = true ∧ a.targetName = d.name := by
  unfold aliasesFor
  simp only [List.mem_map, List.mem_filter, Bool.and_eq_true, Bool.not_eq_true', decide_eq_true_eq]
  constructor
  · rintro ⟨a, ⟨ha, ⟨h1, h2⟩, h3⟩, rfl⟩; exact ⟨a, ha, rfl, h1, h2, h3⟩
  · rintro ⟨a, ha, rfl, h1, h2, h3⟩; exact ⟨a, ⟨ha, ⟨h1, h2⟩, h3⟩, rfl⟩

/-- non-vacuity: a documented recipe in two groups with a public and a private alias -/
example : entriesOf [⟨"b", false, "build", true⟩, ⟨"_b", true, "build", true⟩]
    ⟨"build", ["target", "*rest"], some "comment", some (some "attr"), ["g1", "g2"], false⟩ =
    [⟨some "g1", "build target *rest", some "attr", ["b"]⟩, ⟨some "g2", "build target *rest", some "attr", ["b"]⟩] := by
  decide +kernel

/-! ### `--groups`: the groups displayed are the ones declared -/

/-- **a group is listed iff a public recipe (or a submodule) declares it** — under exactly the name declared: `Build` and
`build` are two groups — -/
theorem groups_listed_iff (ds : List Decl) (moduleGroups : List String) (g : String) :
    g ∈ publicGroups ds moduleGroups ↔ (∃ d ∈ ds, d.isPrivate = false ∧ g ∈ d.groups) ∨ g ∈ moduleGroups := by
  unfold publicGroups
  rw [mem_dedupAux, mem_sortStr]
  simp only [List.mem_append, List.mem_flatMap, List.mem_filter, List.not_mem_nil, not_false_eq_true, and_true,
    Bool.not_eq_eq_eq_not, Bool.not_true]
  constructor
  · rintro (⟨d, ⟨hd, hp⟩, hg⟩ | h)
    · exact Or.inl ⟨d, hd, hp, hg⟩
    · exact Or.inr h
  · rintro (⟨d, hd, hp, hg⟩ | h)
    · exact Or.inl ⟨d, ⟨hd, hp⟩, hg⟩
    · exact Or.inr h

/-- **and it is listed once** -/
theorem groups_listed_once (ds : List Decl) (moduleGroups : List String) : (publicGroups ds moduleGroups).Nodup :=
  nodup_dedupAux _ _

/-- **and in name order** (`--groups` without `--unsorted`): no group is printed after a greater one -/
theorem groups_listed_in_name_order (ds : List Decl) (moduleGroups : List String) :
    Ascending (publicGroups ds moduleGroups) := by
  unfold publicGroups
  exact List.Pairwise.sublist (dedupAux_sublist _ _) (sortStr_ascending _)

example : publicGroups [⟨"a", [], none, none, ["build", "Build"], false⟩, ⟨"b", [], none, none, ["build"], false⟩,
    ⟨"_c", [], none, none, ["hidden"], true⟩] ["mg"] = ["Build", "build", "mg"] := by decide +kernel

/-! ### `--unsorted`: source order across imports -/

/-- the recipes of a file come before those of every file reached through it -/
theorem importer_before_imported (a b : Placed) (more : List Nat) (hm : more ≠ []) (hb : b.imports = a.imports ++ more) :
    placedLt a b = true := by
  have := sliceCmp_append_left a.imports [] more
  rw [List.append_nil] at this
  unfold placedLt
  rw [hb, this]
  cases more with
  | nil => exact absurd rfl hm
  | cons x xs => rfl

/-- in particular the root justfile's own recipes come before every imported one -/
theorem own_before_imported (a b : Placed) (ha : a.imports = []) (hb : b.imports ≠ []) : placedLt a b = true :=
  importer_before_imported a b b.imports hb (by rw [ha]; rfl)

theorem same_file_in_text_order (a b : Placed) (h : a.imports = b.imports) : placedLt a b = decide (a.offset < b.offset) := by
  unfold placedLt
  rw [h, sliceCmp_refl]

/-- of two files imported by the same file, the one whose `import` statement stands first comes first, with everything
reached through it -/
theorem earlier_import_first (a b : Placed) (pre ra rb : List Nat) (i j : Nat) (hij : i < j)
    (ha : a.imports = pre ++ i :: ra) (hb : b.imports = pre ++ j :: rb) : placedLt a b = true := by
  unfold placedLt
  rw [ha, hb, sliceCmp_append_left]
  simp [sliceCmp, hij]

theorem mem_unsortedOrder (x : Placed) : ∀ l : List Placed, x ∈ unsortedOrder l ↔ x ∈ l :=
  fun l => (insertPlaced_by.foldr_perm l).mem_iff

theorem length_unsortedOrder : ∀ l : List Placed, (unsortedOrder l).length = l.length :=
  fun l => (insertPlaced_by.foldr_perm l).length_eq

example : (unsortedOrder [⟨"zeta", [20, 0], 0⟩, ⟨"inner", [20], 16⟩, ⟨"last", [], 40⟩, ⟨"alpha", [20, 0], 12⟩, ⟨"top", [], 0⟩]).map Placed.name
    = ["top", "last", "inner", "zeta", "alpha"] := by decide +kernel

/-- **`--unsorted` lists by the key, whatever order the table hands the recipes in**: in the result no recipe's key
`(import offsets, name offset)` is smaller than that of a recipe listed before it (the key order is transitive and
asymmetric: `placedLt_trans`, `placedLt_asymm`) -/
theorem unsorted_lists_in_key_order (rs : List Placed) : InKeyOrder (unsortedOrder rs) :=
  (insertPlaced_by.foldr_pairwise (fun a b h => by rw [placedLt_asymm a b h]; exact Bool.false_ne_true)
    placedLt_trans rs).imp (fun h => Bool.not_eq_true _ ▸ h)

end Just.Props.C17
