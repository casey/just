import Just.Model.Body
/-
C06  Recipe text reaches the selected shell or interpreter verbatim.

Model: `Just.Body` (line.rs, evaluate_line, run_linewise, Executor::script, Settings::shell,
run_script's interpreter choice).  Tie to the code: vlib/c06.py runs generated bodies through the
binary with a logging shell / interpreter and compares argv and script files with this model and
with an oracle computed from the generator's own construction.
-/
namespace Just.C06
open Just.Body

/-! ### interpolations and text are passed verbatim -/

def fragText : Frag → List Char
  | .text s => unescape s
  | .interp v => v

theorem evalRest_eq (fs : List Frag) : evalRest fs = (fs.map fragText).flatten := by
  induction fs with
  | nil => rfl
  | cons f fs ih => cases f <;> simp [evalRest, fragText, ih]

/-- A line that does not continue a previous one is the plain concatenation of its fragments:
nothing is trimmed, quoted or re-ordered, wherever the interpolations stand. -/
theorem line_verbatim (l : Line) : evalLine l false = (l.frags.map fragText).flatten := by
  unfold evalLine
  split
  · rename_i h
    simp [h, evalRest_eq, fragText]
  · exact evalRest_eq _

/-- On a continuation line only the indentation — leading white space of a leading TEXT fragment —
is dropped. -/
theorem continued_text (s : List Char) (fs : List Frag) (n : Nat) :
    evalLine ⟨.text s :: fs, n⟩ true = trimStart (unescape s) ++ ((fs.map fragText).flatten) := by
  simp [evalLine, evalRest_eq]

/-- A value interpolated at the head of a continuation line is not touched, even when it begins
with white space. -/
theorem continued_value_untouched (v : List Char) (fs : List Frag) (n : Nat) :
    evalLine ⟨.interp v :: fs, n⟩ true = v ++ ((fs.map fragText).flatten) := by
  simp [evalLine, evalRest, evalRest_eq]

/-- `{{{{` becomes `{{`; every other character is kept -/
theorem unescape_escape (rest : List Char) : unescape ('{' :: '{' :: '{' :: '{' :: rest) = '{' :: '{' :: unescape rest := by
  simp [unescape]

theorem unescape_plain (s : List Char) (h : '{' ∉ s) : unescape s = s := by
  fun_induction unescape s with
  | case1 => simp at h
  | case2 c rest _ ih => rw [ih fun e => h (List.mem_cons_of_mem _ e)]
  | case3 => rfl

/-! ### one process per non-empty logical line, in body order -/

/-- the text of one logical line: its lines evaluated, all but the first as continued ones, and joined, each line that continues
without its closing backslash -/
def joinGroup : List Line → Bool → List Char
  | [], _ => []
  | l :: ls, first =>
    (if l.isContinuation then (evalLine l (!first)).dropLast else evalLine l (!first)) ++ joinGroup ls false

/-- what one logical line gives the shell: its joined text with the sigils of its first line stripped; nothing when that is
empty, or for a comment under `set ignore-comments` -/
def cmdOf (ignoreComments : Bool) : List Line → List Cmd
  | [] => []
  | l :: ls =>
    if ignoreComments && l.isComment then []
    else emit ⟨joinGroup (l :: ls) true, l.isQuiet, l.isInfallible⟩

/-- logical lines: a line ending in a backslash is joined with the next one; with
`set ignore-comments` a comment line stands alone.  `cur` is the group under construction, reversed. -/
def groupsGo (ignoreComments : Bool) : List Line → List Line → List (List Line)
  | [], [] => []
  | cur, [] => [cur.reverse]
  | [], l :: ls =>
    if ignoreComments && l.isComment then [l] :: groupsGo ignoreComments [] ls
    else if l.isContinuation then groupsGo ignoreComments [l] ls
    else [l] :: groupsGo ignoreComments [] ls
  | c :: cur, l :: ls =>
    if l.isContinuation then groupsGo ignoreComments (l :: c :: cur) ls
    else (l :: c :: cur).reverse :: groupsGo ignoreComments [] ls

def groups (ignoreComments : Bool) (body : List Line) : List (List Line) := groupsGo ignoreComments [] body

theorem mem_unescape {c : Char} {s : List Char} (h : c ∈ s) : c ∈ unescape s := by
  fun_induction unescape s <;> grind

theorem mem_trimStart {c : Char} {s : List Char} (h : c ∈ s) (hc : isWhite c = false) : c ∈ trimStart s := by
  induction s with
  | nil => cases h
  | cons d ds ih => rw [trimStart, List.dropWhile_cons]; grind [trimStart]

/-- a line that continues still holds, once evaluated, the backslash that is then removed -/
theorem evalLine_continuation (l : Line) (c : Bool) (h : l.isContinuation = true) : '\\' ∈ evalLine l c := by
  unfold Line.isContinuation at h
  split at h
  · rename_i s hlast
    have hs : '\\' ∈ unescape s := mem_unescape (List.mem_of_getLast? (by simpa using h))
    have hrest : ∀ fs, Frag.text s ∈ fs → '\\' ∈ evalRest fs := fun fs hm =>
      evalRest_eq fs ▸ List.mem_flatten.mpr ⟨_, List.mem_map_of_mem (f := fragText) hm, hs⟩
    have hm := List.mem_of_getLast? hlast
    unfold evalLine
    split
    · rename_i _ fs hf
      rw [hf] at hm
      rcases List.mem_cons.mp hm with ht | hm
      · cases ht
        refine List.mem_append_left _ ?_
        split
        · exact mem_trimStart hs (by decide)
        · exact hs
      · exact List.mem_append_right _ (hrest fs hm)
    · exact hrest _ hm
  · cases h

/-- The loop in the middle of a group (`cur`, reversed) agrees with the specification when its
state `p` is what the group read so far amounts to: whatever lines complete the group, the group's
command is `p` with their text appended. -/
theorem goLines_spec (ic : Bool) (ls : List Line) :
    goLines ic none ls = ((groupsGo ic [] ls).map (cmdOf ic)).flatten ∧
    ∀ (cur : List Line) (p : Pending), cur ≠ [] →
      (∀ rest, cmdOf ic (cur.reverse ++ rest) = emit { p with text := p.text ++ joinGroup rest false }) →
      goLines ic (some p) ls = ((groupsGo ic cur ls).map (cmdOf ic)).flatten := by
  induction ls with
  | nil =>
    refine ⟨rfl, fun cur p hne hp => ?_⟩
    obtain ⟨c, cur, rfl⟩ := List.exists_cons_of_ne_nil hne
    simpa [goLines, groupsGo, joinGroup] using (hp []).symm
  | cons l ls ih =>
    refine ⟨?_, fun cur p hne hp => ?_⟩
    · simp only [goLines, groupsGo]
      split
      · simp [cmdOf, *, ih.1]
      · split
        · refine ih.2 [l] _ (by simp) fun rest => ?_
          simp [cmdOf, joinGroup, *]
        · simp [cmdOf, joinGroup, *, ih.1]
    · obtain ⟨c, cur, rfl⟩ := List.exists_cons_of_ne_nil hne
      simp only [goLines, groupsGo]
      split
      · rename_i hc
        refine ih.2 (l :: c :: cur) _ (by simp) fun rest => ?_
        have := hp (l :: rest)
        simp only [joinGroup, hc, if_true, Bool.not_false] at this
        rw [List.reverse_cons, List.append_assoc, List.singleton_append, this,
          List.dropLast_append_of_ne_nil (List.ne_nil_of_mem (evalLine_continuation l true hc)), List.append_assoc]
      · have := hp [l]
        simp [joinGroup, *] at this
        simp [this, ih.1]

/-- **One process per non-empty logical line, in body order.**  For every body, the commands handed
to the shell are exactly the commands of its logical lines (continuation groups), in order: each
group contributes one command — its lines joined without the backslashes and the continuation
indentation, sigils removed — or none when that text is empty (or the group is a comment under
`set ignore-comments`). -/
theorem linewise_commands (ic : Bool) (body : List Line) :
    runLinewise ic body = ((groups ic body).map (cmdOf ic)).flatten :=
  (goLines_spec ic body).1

theorem at_most_one_process_per_line (ic : Bool) (g : List Line) : (cmdOf ic g).length ≤ 1 := by
  cases g with
  | nil => simp [cmdOf]
  | cons l ls =>
    simp only [cmdOf]
    split
    · simp
    · simp only [emit]
      generalize List.drop _ (joinGroup _ _) = command
      split <;> simp

/-! ### script files: every body line on its justfile line number -/

def nthLine : List Char → Nat → List Char
  | [], _ => []
  | c :: cs, 0 => if c = '\n' then [] else c :: nthLine cs 0
  | c :: cs, n + 1 => if c = '\n' then nthLine cs n else nthLine cs (n + 1)

theorem nthLine_line (t rest : List Char) (h : '\n' ∉ t) :
    nthLine (t ++ '\n' :: rest) 0 = t ∧ ∀ m, nthLine (t ++ '\n' :: rest) (m + 1) = nthLine rest m := by
  induction t with
  | nil => simp [nthLine]
  | cons c cs ih =>
    have hc : c ≠ '\n' := fun e => h (by simp [e])
    simp [nthLine, hc, ih fun e => h (by simp [e])]

theorem nthLine_skip {α : Type} (f : α → List Char) (heads : List α) (rest : List Char) (m : Nat)
    (h : ∀ x ∈ heads, '\n' ∉ f x) :
    nthLine ((heads.map fun x => f x ++ ['\n']).flatten ++ rest) (heads.length + m) = nthLine rest m := by
  induction heads with
  | nil => simp
  | cons x xs ih =>
    rw [List.map_cons, List.flatten_cons, List.length_cons, List.append_assoc, List.append_assoc,
      show xs.length + 1 + m = (xs.length + m) + 1 by omega]
    exact ((nthLine_line _ _ (h x (List.mem_cons_self ..))).2 _).trans (ih fun y hy => h y (List.mem_cons_of_mem _ hy))

theorem newlines_eq (k : Nat) : newlines k = ((List.replicate k ()).map fun _ => [] ++ ['\n']).flatten := by
  simp [newlines]

/-- one record of `scriptRest`: `pad` blank lines, the text, its line end -/
theorem nthLine_record (pad : Nat) (t rest : List Char) (h : '\n' ∉ t) :
    nthLine (newlines pad ++ t ++ ['\n'] ++ rest) pad = t ∧
    ∀ m, nthLine (newlines pad ++ t ++ ['\n'] ++ rest) (pad + 1 + m) = nthLine rest m := by
  have hs := fun r => nthLine_skip (fun _ : Unit => []) (List.replicate pad ()) r
  simp only [List.length_replicate, ← newlines_eq] at hs
  simp only [List.append_assoc, List.singleton_append]
  exact ⟨(hs _ 0 (by simp)).trans (nthLine_line t rest h).1,
    fun m => by rw [Nat.add_assoc, hs _ _ (by simp), Nat.add_comm]; exact (nthLine_line t rest h).2 m⟩

theorem scriptRest_lines (n : Nat) (ls : List Line)
    (hsorted : ls.Pairwise (fun a b => a.number < b.number))
    (hlow : ∀ l ∈ ls, n ≤ l.number)
    (hnl : ∀ l ∈ ls, '\n' ∉ evalLine l false) :
    ∀ l ∈ ls, nthLine (scriptRest n ls) (l.number - n) = evalLine l false := by
  induction ls generalizing n with
  | nil => intro l hl; cases hl
  | cons l0 rest ih =>
    intro l hl
    obtain ⟨hhead, htail⟩ := List.pairwise_cons.mp hsorted
    have hrec := nthLine_record (l0.number - n) _ (scriptRest (n + (l0.number - n) + 1) rest) (hnl l0 (List.mem_cons_self ..))
    have h0 : n ≤ l0.number := hlow l0 (List.mem_cons_self ..)
    rw [scriptRest]
    rcases List.mem_cons.mp hl with rfl | hl
    · exact hrec.1
    · have hlt : l0.number < l.number := hhead l hl
      -- `l` stands `l.number - (l0.number + 1)` lines behind the record of `l0`
      rw [show l.number - n = (l0.number - n) + 1 + (l.number - (l0.number + 1)) by omega, hrec.2,
        show n + (l0.number - n) + 1 = l0.number + 1 by omega]
      exact ih (l0.number + 1) htail (fun x hx => hhead x hx) (fun x hx => hnl x (List.mem_cons_of_mem _ hx)) l hl

/-- **`[script]` recipes**: every body line stands, evaluated, on the line of the script file that
has its justfile line number; the lines between are blank padding. -/
theorem script_line_numbers (body : List Line)
    (hsorted : body.Pairwise (fun a b => a.number < b.number))
    (hnl : ∀ l ∈ body, '\n' ∉ evalLine l false) :
    ∀ l ∈ body, nthLine (scriptText false true body) l.number = evalLine l false :=
  scriptRest_lines 0 body hsorted (fun _ _ => Nat.zero_le _) hnl

/-- **Shebang recipes**: the `#!` lines come first; every line after them stands on its justfile
line number. -/
theorem shebang_line_numbers (body : List Line)
    (hsorted : (body.dropWhile Line.isShebang).Pairwise (fun a b => a.number < b.number))
    (hlow : ∀ l ∈ body.dropWhile Line.isShebang, (body.takeWhile Line.isShebang).length ≤ l.number)
    (hnl : ∀ l ∈ body, '\n' ∉ evalLine l false) :
    ∀ l ∈ body.dropWhile Line.isShebang, nthLine (scriptText true true body) l.number = evalLine l false := by
  intro l hl
  have h1 := scriptRest_lines _ _ hsorted hlow (fun x hx => hnl x ((List.dropWhile_sublist _).subset hx)) l hl
  have := nthLine_skip (evalLine · false) (body.takeWhile Line.isShebang) (scriptRest (body.takeWhile Line.isShebang).length (body.dropWhile Line.isShebang))
    (l.number - (body.takeWhile Line.isShebang).length) fun x hx => hnl x ((List.takeWhile_sublist _).subset hx)
  rw [Nat.add_sub_cancel' (hlow l hl)] at this
  simp only [scriptText, ↓reduceIte]
  rw [this]
  exact h1

/-! ### which shell, which interpreter -/

theorem shell_flag_and_args (s : String) (a : List String) (set : Option Interp) : shell (some s) (some a) set = ⟨s, a⟩ := rfl
theorem shell_flag_only (s : String) (set : Option Interp) : shell (some s) none set = ⟨s, ["-cu"]⟩ := rfl
theorem shell_args_only (a : List String) (set : Option Interp) : shell none (some a) set = ⟨"sh", a⟩ := rfl
theorem shell_setting (i : Interp) : shell none none (some i) = i := rfl
theorem shell_default : shell none none none = ⟨"sh", ["-cu"]⟩ := rfl

/-- as soon as `--shell` or `--shell-arg` is given, `set shell` plays no role -/
theorem command_line_overrides_setting (cs : Option String) (ca : Option (List String)) (set set' : Option Interp)
    (h : cs.isSome ∨ ca.isSome) : shell cs ca set = shell cs ca set' := by
  cases cs <;> cases ca <;> simp_all [shell]

/-- a `[script(cmd …)]` recipe runs `cmd`; a bare `[script]` runs `script-interpreter`, else `sh -eu` -/
theorem script_own_command_first (i : Interp) (setting : Option Interp) : scriptInterpreter (some i) setting = i := rfl
theorem script_setting_second (i : Interp) : scriptInterpreter none (some i) = i := rfl
theorem script_default : scriptInterpreter none none = ⟨"sh", ["-eu"]⟩ := rfl

/-- shebang and `[script]` recipes never go through the shell: whatever `--shell`, `--shell-arg` and
`set shell` say, what is executed is the same -/
theorem scripts_ignore_shell (r : Recipe) (ic : Bool) (cs cs' : Option String) (ca ca' : Option (List String))
    (set set' si : Option Interp) (h : r.scriptAttr.isSome ∨ r.isShebang = true) :
    execute r ic cs ca set si = execute r ic cs' ca' set' si := by
  unfold execute
  cases hs : r.scriptAttr with
  | some a => rfl
  | none =>
    rcases h with h | h
    · simp [hs] at h
    · simp [h]

/-- a linewise recipe runs its lines with the selected shell, one command per logical line -/
theorem linewise_uses_shell (r : Recipe) (ic : Bool) (cs : Option String) (ca : Option (List String))
    (set si : Option Interp) (h1 : r.scriptAttr = none) (h2 : r.isShebang = false) :
    execute r ic cs ca set si = .shellLines (shell cs ca set) (((groups ic r.body).map (cmdOf ic)).flatten) := by
  simp [execute, h1, h2, linewise_commands]

/-- non-vacuity: a body with a sigil, an escape, an interpolation and a continuation -/
example :
    runLinewise false
      [⟨[.text "@echo {{{{a}} ".toList, .interp " v ".toList, .text " \\".toList], 3⟩,
       ⟨[.text "    ".toList, .interp "  w".toList], 4⟩,
       ⟨[], 5⟩,
       ⟨[.text "-false".toList], 6⟩]
    = [⟨"echo {{a}}  v    w".toList, true, false⟩, ⟨"false".toList, false, true⟩] := by
  decide +kernel

end Just.C06
