import Just.Lemmas.Syntax
import Just.Lemmas.SyntaxWF
import Just.Lemmas.SyntaxRoundtrip
import Just.Lemmas.Header
import Just.Lemmas.Items
import Just.Lemmas.Ast
import Just.Lemmas.ParserCalls
import Just.Lemmas.FuelExists
/-
C10  Formatting preserves meaning and is idempotent.

Theorems: the token-level expression printer and the recursive-descent expression parser are
inverse on every expression the parser can produce (`WF`): parse (print e) = e, at every syntactic
level, with any continuation that does not extend the phrase, and for every amount of fuel above
a linear bound.  Hence printing is a fixed point through parsing (idempotence).  The same for recipe
header lines, recipes with their bodies, assignments, aliases and whole justfiles (all item kinds, attribute
lines, doc comments, the layout of empty lines).
-/
namespace Just.C10
open Just Just.Syntax

/-- **Round trip.**  For every well-formed expression `e`, every level `k` at which it may stand,
every continuation `rest` that does not extend the level-`k` phrase `e` (`StopE`: no `||`, `&&` of that level, and no `/`, `+`
unless `e` ends in a conditional, which the parser returns as it is; `After`:
when `e` ends with an identifier, no `(` - that would be a call - and directly after `x` no string - that
would be a shell-expanded literal) and every sufficient fuel, the level-`k` parser reads the printed tokens of `e` back
as exactly `e` and stops at `rest`.
(Proof: Lemmas/SyntaxRoundtrip.lean - by mutual structural induction over `Expr` / `Exprs` the printed tokens derive `e` in
the grammar `Parses`; Lemmas/Grammar.lean - fuel four times the size of what a derivation yields suffices.) -/
theorem roundtrip (e : Expr) (hw : WF e) (k : Nat) (hk : level e ≤ k) (hk3 : k ≤ 3) (f : Nat) (rest : List Tk)
    (hf : 4 * e.size + k ≤ f) (hstop : StopE k e rest) (hafter : After e rest) :
    parseAt k f (printE e ++ rest) = some (e, rest) :=
  (printed e hw k hk hk3 rest hstop hafter).complete hk3 hf

theorem roundtripArgs (es : Exprs) (hw : WFs es) (f : Nat) (rest : List Tk) (hf : 4 * es.size + 1 ≤ f) :
    parseSequence f (printArgs es ++ [.rparen] ++ rest) = some (es, rest) :=
  (printedArgs es hw rest).complete_size f hf

/-- **Formatting preserves the expression.**  Parsing the printed form of any expression the parser
can produce yields that expression again and consumes every token. -/
theorem parse_print (e : Expr) (hw : WF e) : parseExpression (4 * e.size + 3) (printE e) = some (e, []) :=
  List.append_nil (printE e) ▸ roundtrip e hw 3 (level_le3 e) (Nat.le_refl _) _ [] (Nat.le_refl _) (stopE_nil 3 e) (after_nil e)

/-- … for every larger amount of fuel as well: the bound is not a hidden restriction -/
theorem parse_print_fuel (e : Expr) (hw : WF e) (f : Nat) (hf : 4 * e.size + 3 ≤ f) :
    parseExpression f (printE e) = some (e, []) :=
  List.append_nil (printE e) ▸ roundtrip e hw 3 (level_le3 e) (Nat.le_refl _) f [] hf (stopE_nil 3 e) (after_nil e)

/-- **Formatting is idempotent.**  Print, parse, print again: the same tokens. -/
theorem format_idempotent (e : Expr) (hw : WF e) :
    (parseExpression (4 * e.size + 3) (printE e)).map (fun r => printE r.1) = some (printE e) := by
  rw [parse_print e hw]; rfl

/-- parentheses written by the user are kept, and only they are: a group prints as `( … )` -/
theorem group_keeps_parentheses (e : Expr) : printE (.group e) = [.lparen] ++ printE e ++ [.rparen] := by
  rfl

/-- in interpolations, defaults and dependency arguments the same printer and parser are used: the
round trip holds with any continuation that cannot extend the expression (`}}`, `)`, `,`, end of line …) -/
theorem parse_print_in_context (e : Expr) (hw : WF e) (rest : List Tk) (hrest : StopE 3 e rest) (hafter : After e rest) :
    parseExpression (4 * e.size + 3) (printE e ++ rest) = some (e, rest) :=
  roundtrip e hw 3 (level_le3 e) (Nat.le_refl _) _ rest (Nat.le_refl _) hrest hafter

/-- a shell-expanded literal `x'…'` is two tokens and is read back as the same literal -/
example : printE (.str "x'~/a'") = [.ident "x", .strAdj "'~/a'"]
    ∧ parseExpression 5 (printE (.str "x'~/a'")) = some (.str "x'~/a'", []) := by
  constructor
  · decide
  · rfl

/-- the `After` hypothesis is necessary: a trailing identifier does swallow a following `(` or, after `x`, a
string written directly after it - the variable `trim` followed by `('a')` is the call `trim('a')`, `x` followed at
once by `'a'` is `x'a'`; with white space between them (`x 'a'`: a plain `str` token) nothing is swallowed -/
example (hfn : fnOk "trim" 1 = true) : parseExpression 9 (printE (.var "trim") ++ [.lparen, .str "'a'", .rparen])
      = some (.call "trim" (.cons (.str "'a'") .nil), [])
    ∧ parseExpression 5 (printE (.var "x") ++ [.strAdj "'a'"]) = some (.str "x'a'", [])
    ∧ parseExpression 5 (printE (.var "x") ++ [.str "'a'"]) = some (.var "x", [.str "'a'"]) := by
  refine ⟨?_, ?_, ?_⟩
  · simp [parseExpression, parseDisjunct, parseConjunct, parseValue, parseSequence, printE, Exprs.length, hfn]
  · rfl
  · rfl

/-- **Everything the parser returns is well-formed**, for any tokens and any fuel: so the round trip
applies to every expression that can come out of a justfile. -/
theorem parsed_is_wellformed (f : Nat) (ts : List Tk) (e : Expr) (rest : List Tk)
    (h : parseExpression f ts = some (e, rest)) : WF e :=
  (parserWF f).expression ts e rest h

/-- **Formatting is a projection.**  Whatever token sequence the user wrote: if it parses to `e`, then the
formatted text parses to the same `e` — and formatting that again prints the same tokens. -/
theorem format_of_any_source (f : Nat) (ts : List Tk) (e : Expr) (rest : List Tk)
    (h : parseExpression f ts = some (e, rest)) :
    parseExpression (4 * e.size + 3) (printE e) = some (e, [])
    ∧ (parseExpression (4 * e.size + 3) (printE e)).map (fun r => printE r.1) = some (printE e) :=
  ⟨parse_print e (parsed_is_wellformed f ts e rest h), format_idempotent e (parsed_is_wellformed f ts e rest h)⟩

/-- **Round trip of recipe headers.**  For every header whose defaults are values (`WFValue`: what `parse_value` returns,
a variable or function called `if` included) and whose dependency
arguments do not begin with a token that would continue the previous argument (`WFHeader`), printing
the header (`ColorDisplay for Recipe` up to the body) and parsing it (`parse_recipe` up to `expect_eol`)
returns exactly the header - quiet flag, name, every parameter with its kind, `$` export and default,
the variadic parameter, the prior and the subsequent dependencies with all their arguments. -/
theorem header_roundtrip (h : Header.Header) (hw : Header.WFHeader h) (fuel : Nat) (hf : Header.HeaderFuel fuel h)
    (rest : List Tk) : Header.parseHeader fuel (Header.printHeader h ++ rest) = some (h, rest) :=
  Header.parseHeader_rt h hw fuel hf rest

/-- **Round trip of a whole recipe**: the header line and the body - every line's text fragments and
`{{ … }}` interpolations, blank lines inside the body - print (`ColorDisplay for Recipe`) and parse
(`parse_recipe` with `parse_body`) back to exactly the recipe, for every recipe with a well-formed header,
well-formed interpolated expressions and no trailing empty line (what `parse_body` returns). -/
theorem recipe_roundtrip (fuel : Nat) (r : Items.Recipe) (hw : Items.WFRecipe r) (hf : Items.RecipeFuel fuel r)
    (rest : List Tk) (hrest : ∀ t, rest ≠ Tk.other "Indent" :: t) :
    Items.parseRecipe fuel (Items.printRecipe r ++ rest) = some (r, rest) := by
  have hh := header_roundtrip r.header hw.header fuel hf.header (Items.printBody r.body ++ rest)
  have hb := Items.parseBody_rt fuel r.body hw.body hw.noTrailingEmpty hf.body rest hrest
  simp only [Items.printRecipe, List.append_assoc]
  simp only [Items.parseRecipe, hh, hb]

/-- **Round trip of assignments** (`[export] name := expression`). -/
theorem assignment_roundtrip (fuel : Nat) (a : Items.Assignment) (hw : WF a.value) (hf : 4 * a.value.size + 3 ≤ fuel)
    (rest : List Tk) : Items.parseAssignment fuel (Items.printAssignment a ++ rest) = some (a, rest) :=
  Items.parseAssignment_rt fuel a hw hf rest

/-- **Round trip of aliases**, including targets in submodules (`alias a := m::n::r`): every path component is kept. -/
theorem alias_roundtrip (fuel : Nat) (a : Items.Alias) (hf : a.path.length < fuel) (rest : List Tk) :
    Items.parseAlias fuel (Items.printAlias a ++ rest) = some (a, rest) :=
  Items.parseAlias_rt fuel a hf rest

/-- **Round trip of a whole justfile.**  For every list of items - recipes with doc comment, attribute lines, header and
body; assignments and aliases with `[private]`; settings of the three forms; imports; modules; `unexport`; comments - that
are well-formed (`WFItem`: what `parse_ast` can return) - recipes may be called `set`, `mod`, `import`, … : no look-ahead guard of
the keyword dispatch fires on a printed header (`header_guards`) -, printing the file
(`Display for Ast`: every item, an empty line after each recipe and between items of different kinds, as the lexer presents
that text - the empty line after a recipe body comes before its `Dedent`) and parsing it (`parse_ast`: attribute lines,
keyword dispatch with look-ahead, `pop_doc_comment` with `eol_since_last_comment`) returns exactly the items, minus what the
printer forgets (`Item.forget`: the doc comment and the attributes of a `mod` item).  In particular a comment item in front
of a recipe is never taken for its doc comment, a doc comment is read back as the doc, and attributes come back in order.
`litLe`, the order between two `[group(…)]` literals, is arbitrary.  (Proof: Lemmas/Ast.lean.) -/
theorem file_roundtrip (litLe : String → String → Bool) (F : Nat) (items : List Ast.Item) (hw : ∀ it ∈ items, Ast.WFItem litLe it)
    (hf : ∀ it ∈ items, Ast.ItemFuel (F + 2) it) (hlen : 3 * items.length ≤ F) :
    Ast.parseAst litLe (F + 2) (Ast.printAst items) = some (items.map Ast.Item.forget) := by
  have h := Ast.parseItems_pad_le (g := F + 2) (Ast.parseItems_rt litLe F items hw hf [] false
    (by cases items with
      | nil => trivial
      | cons it _ => exact fun _ => rfl)) (by omega)
  have hb := (Ast.printItems_head items).ne (t' := .other "ByteOrderMark") rfl
  unfold Ast.parseAst Ast.printAst
  split
  · rename_i r heq; exact absurd heq (hb r)
  · exact h

/-- … and nothing at all is lost when no module carries a doc comment or attributes -/
theorem file_roundtrip_exact (litLe : String → String → Bool) (F : Nat) (items : List Ast.Item) (hw : ∀ it ∈ items, Ast.WFItem litLe it)
    (hf : ∀ it ∈ items, Ast.ItemFuel (F + 2) it) (hlen : 3 * items.length ≤ F) (hm : ∀ it ∈ items, it.forget = it) :
    Ast.parseAst litLe (F + 2) (Ast.printAst items) = some items := by
  rw [file_roundtrip litLe F items hw hf hlen, List.map_congr_left hm, List.map_id']

/-- **Formatting a whole file is idempotent**: what parsing the formatted file returns prints as the same tokens. -/
theorem file_format_idempotent (litLe : String → String → Bool) (F : Nat) (items : List Ast.Item) (hw : ∀ it ∈ items, Ast.WFItem litLe it)
    (hf : ∀ it ∈ items, Ast.ItemFuel (F + 2) it) (hlen : 3 * items.length ≤ F) :
    (Ast.parseAst litLe (F + 2) (Ast.printAst items)).map Ast.printAst = some (Ast.printAst items) := by
  rw [file_roundtrip litLe F items hw hf hlen]
  simp [Ast.printAst, Ast.printItems_forget]

/-- **Whatever `parse_ast` returns is well-formed** (`WFItem`), for every token list and every fuel, when the order between
two `[group(…)]` literals is a linear order (the real one is: cooked text, then the flags, then the raw text).  So the
hypotheses of `file_roundtrip` are not a restriction on the files people write.  (Proof: Lemmas/ParserCalls.lean, one statement
per parsing function, over Lemmas/ParserWF.lean - where a sub-parse stops the printed form of what it read stops too
(`ParserStops`: `After`, `StopE`), the printed form of the next phrase begins like its source (`ParserHead`), values are
`WFValue`, headers `WFHeader`, recipes `WFRecipe`; the attribute set stays sorted and free of duplicates under insertion; doc
comments come out trimmed.) -/
theorem parsed_file_is_wellformed (litLe : String → String → Bool) (hl : Ast.LinearLe litLe) (fuel : Nat) (ts : List Tk)
    (items : List Ast.Item) (h : Ast.parseAst litLe fuel ts = some items) : ∀ it ∈ items, Ast.WFItem litLe it := by
  unfold Ast.parseAst at h
  split at h <;> exact Ast.parseItems_wf hl (fun it hit => absurd hit List.not_mem_nil) h

/-- **Formatting any file that parses preserves it and is idempotent.**  Whatever tokens the user wrote: if `parse_ast`
accepts them and returns `items`, then the formatted file (`Display for Ast`) parses to the same items - minus the doc comment
and attributes of `mod` items, the recorded finding - and formatting that again prints the same tokens.  `F` is any fuel above
the explicit linear bounds `ItemFuel`; by `C11.parser_needs_no_fuel` the amount is immaterial. -/
theorem format_of_any_file (litLe : String → String → Bool) (hl : Ast.LinearLe litLe) (fuel : Nat) (ts : List Tk)
    (items : List Ast.Item) (h : Ast.parseAst litLe fuel ts = some items)
    (F : Nat) (hf : ∀ it ∈ items, Ast.ItemFuel (F + 2) it) (hlen : 3 * items.length ≤ F) :
    Ast.parseAst litLe (F + 2) (Ast.printAst items) = some (items.map Ast.Item.forget)
    ∧ (Ast.parseAst litLe (F + 2) (Ast.printAst items)).map Ast.printAst = some (Ast.printAst items) :=
  have hw := parsed_file_is_wellformed litLe hl fuel ts items h
  ⟨file_roundtrip litLe F items hw hf hlen, file_format_idempotent litLe F items hw hf hlen⟩

/-- … and the fuel bounds can always be met: from some amount on, every fuel works (`Lemmas/FuelExists.lean`). -/
theorem format_of_any_file_eventually (litLe : String → String → Bool) (hl : Ast.LinearLe litLe) (fuel : Nat) (ts : List Tk)
    (items : List Ast.Item) (h : Ast.parseAst litLe fuel ts = some items) :
    ∃ G0, ∀ G, G0 ≤ G →
      Ast.parseAst litLe G (Ast.printAst items) = some (items.map Ast.Item.forget)
      ∧ (Ast.parseAst litLe G (Ast.printAst items)).map Ast.printAst = some (Ast.printAst items) := by
  obtain ⟨a, ha⟩ := Ast.ev_fileFuel items
  refine ⟨a + 2, fun G hG => ?_⟩
  obtain ⟨F, rfl⟩ : ∃ F, G = F + 2 := ⟨G - 2, by omega⟩
  have hb := ha F (by omega)
  exact format_of_any_file litLe hl fuel ts items h F hb.1 hb.2

/-- the string order is a linear order: the hypothesis of `format_of_any_file` is satisfiable -/
example : Ast.LinearLe (fun a b => decide (a ≤ b)) :=
  ⟨fun a b => by simpa using String.le_total a b,
   fun a b c h1 h2 => by simp only [decide_eq_true_eq] at *; exact String.le_trans h1 h2,
   fun a b h1 h2 => by simp only [decide_eq_true_eq] at *; exact String.le_antisymm h1 h2⟩

/-- the recorded finding, in the model: the doc comment and the attributes of a module do not survive formatting
(`# about m` / `[group('g')]` / `mod m` prints as `mod m`) -/
example : Ast.printAst [.module false "m" none (some "about m".toList) [⟨"group", ["'g'"]⟩]] = Ast.printAst [.module false "m" none none []] := rfl

/-- non-vacuity of `file_roundtrip`: a comment, a documented recipe with an attribute, a setting and an assignment -/
example : ∀ it ∈ ([.comment "# c".toList,
      .recipe (some "doc".toList) [⟨"private", []⟩] ⟨⟨false, "r", [], none, [], []⟩, [[.text "echo"]]⟩,
      .set ⟨"quiet", .flag true⟩,
      .assignment false ⟨true, "v", .str "'a'"⟩] : List Ast.Item), Ast.WFItem (fun a b => decide (a ≤ b)) it := by
  simp only [List.forall_mem_cons, List.not_mem_nil, false_imp_iff, imp_true_iff, and_true]
  refine ⟨by show Ast.trimEnd _ = _; decide, ⟨⟨⟨?_, ?_⟩, ⟨⟨?_, ?_, ?_, ?_⟩, ?_, ?_⟩, ?_⟩, ?_, ?_⟩,
    by show Ast.settingForm "quiet" = some "bool"; decide, trivial, by simp [Ast.startsUnderscore]⟩
  all_goals try simp [Ast.private_valid, Items.NoTrailingEmpty, Items.WFFrag, Ast.hasAttr]
  · decide
  · exact ⟨by decide, by decide, by decide⟩

/-- non-vacuity: `@build target $mode='debug' +flags=(a + 'x'): clean (fetch 'src' mode) && (notify target)` -/
example : Header.WFHeader
    ⟨true, "build",
     [⟨.singular, false, "target", none⟩, ⟨.singular, true, "mode", some (.str "'debug'")⟩],
     some ⟨.plus, false, "flags", some (.group (.concat (.var "a") (.str "'x'")))⟩,
     [⟨"clean", []⟩, ⟨"fetch", [.str "'src'", .var "mode"]⟩],
     [⟨"notify", [.var "target"]⟩]⟩ := by
  refine ⟨?_, ?_, ?_, ?_⟩ <;> simp [Header.WFParam, Header.WFValue, Header.WFDep, Header.WFArgs, WF, level, okName]
  exact ⟨stopE_of_closes rfl _ _, after_of_none rfl _⟩

/-- dependency arguments may begin with a parenthesis when the previous argument does not end with a name:
`(dep 'a' ('b') x'c' (d))` -/
example : Header.WFArgs [.str "'a'", .group (.str "'b'"), .str "x'c'", .group (.var "d")] := by
  refine ⟨trivial, stopE_cons 3 _ _ _ rfl, after_of_none rfl _, trivial, ?_, after_of_none rfl _,
    trivial, stopE_cons 3 _ _ _ rfl, after_of_none rfl _, ?_⟩
  · have : printE (.str "x'c'") = [.ident "x", .strAdj "'c'"] := by decide
    rw [this]; exact stopE_of_closes rfl _ _
  · exact (by simp [WF, okName] : WF (.group (.var "d")))

/-- non-vacuity (`hfn`: the regenerated function table knows `join` with two arguments, which the correspondence run
exercises; table look-ups do not reduce in the kernel): `if a == (b + 'c') { join(x, y) / z } else if … { … } else { / w && v || u }` is well-formed -/
example (hfn : fnOk "join" 2 = true) : WF (.cond (.var "a") .eq (.group (.concat (.var "b") (.str "'c'")))
    (.joinL (.call "join" (.cons (.var "x") (.cons (.var "y") .nil))) (.var "z"))
    (.cond (.var "p") .match (.str "'r'") (.backtick "`q`")
      (.or (.and (.joinR (.var "w")) (.var "v")) (.var "u")))) := by
  simp [WF, WFs, level, okName, Exprs.length, hfn]

end Just.C10
