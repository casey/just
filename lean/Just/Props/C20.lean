/-
C20 — non-executing commands are deterministic.
-/
import Just.Lemmas.Table
import Just.Lemmas.Define
namespace Just.Props.C20
open Just.Determinism

/-- **the dump is a function of the justfile**: with the ordered set, two processes that happen to
hold the same set of unexports in ANY two iteration orders print the same thing — for any name
type with a total order (what `BTreeSet` requires) -/
theorem ordered_dump_independent_of_iteration_order {α : Type} (le : α → α → Bool)
    (trans : ∀ a b c, le a b → le b c → le a c) (total : ∀ a b, le a b || le b a)
    (antisymm : ∀ a b, le a b → le b a → a = b)
    (tables : List (List α)) (σ₁ σ₂ : List α) (h : σ₁.Perm σ₂) :
    dumpOrdered le ⟨tables, σ₁⟩ = dumpOrdered le ⟨tables, σ₂⟩ := by
  unfold dumpOrdered
  simp only [Prod.mk.injEq, true_and]
  apply List.Perm.eq_of_pairwise (le := fun a b => le a b)
  · intro a b _ _ hab hba; exact antisymm a b hab hba
  · exact List.pairwise_mergeSort trans total σ₁
  · exact List.pairwise_mergeSort trans total σ₂
  · exact ((List.mergeSort_perm σ₁ le).trans h).trans (List.mergeSort_perm σ₂ le).symm

/-- **the pinned source is not deterministic**: two iteration orders of the same two-element set
give different dumps (witness; repaired by a `fix:` commit) -/
theorem hash_dump_depends_on_iteration_order :
    ∃ σ₁ σ₂ : List Nat, σ₁.Perm σ₂ ∧ dumpHash (⟨[], σ₁⟩ : Compiled Nat) ≠ dumpHash ⟨[], σ₂⟩ := by
  refine ⟨[1, 2], [2, 1], ?_, by decide⟩
  exact List.Perm.swap 2 1 []

/-- non-vacuity: `Nat.ble` is such an order -/
example : dumpOrdered Nat.ble ⟨[], [3, 1, 2]⟩ = dumpOrdered Nat.ble ⟨[], [2, 3, 1]⟩ :=
  ordered_dump_independent_of_iteration_order Nat.ble
    (fun a b c h1 h2 => by simp only [Nat.ble_eq] at *; omega)
    (fun a b => by simp only [Nat.ble_eq, Bool.or_eq_true]; omega)
    (fun a b h1 h2 => by simp only [Nat.ble_eq] at *; omega)
    [] _ _ (by decide)

/-! ### name-keyed tables (`Table` = `BTreeMap`): recipes, aliases, assignments, modules, settings -/

/-- **what a table holds and shows is a function of the SET of definitions**: in whatever order
the definitions are met (source order, the analyzer's stack order over imported files, hash order
of any container they passed through), the table — and so every listing and the dump, which
iterate it — is the same. -/
theorem table_independent_of_definition_order {α : Type} (σ₁ σ₂ : List (String × α))
    (hnd : (σ₁.map Prod.fst).Nodup) (h : σ₁.Perm σ₂) : build σ₁ = build σ₂ :=
  sorted_perm_eq _ _ (build_spec σ₁ hnd).1 (build_spec σ₂ ((h.map Prod.fst).nodup_iff.mp hnd)).1
    (((build_spec σ₁ hnd).2.trans h).trans (build_spec σ₂ ((h.map Prod.fst).nodup_iff.mp hnd)).2.symm)

theorem table_sorted_and_complete {α : Type} (σ : List (String × α)) (hnd : (σ.map Prod.fst).Nodup) :
    (keysOf (build σ)).Pairwise (· < ·) ∧ (build σ).Perm σ :=
  ⟨List.pairwise_map.mpr (build_spec σ hnd).1, (build_spec σ hnd).2⟩

open Just.Define in
/-- **the duplicate-definition verdict does not depend on the order either** (the analyzer keeps
its `definitions` in a `HashMap`, used for look-ups only): permuting the definitions and the
assignments of a module changes neither acceptance nor rejection. -/
theorem duplicate_verdict_independent_of_order (allowRecipes allowVars : Bool)
    (items₁ items₂ : List Def) (vars₁ vars₂ : List String)
    (hi : items₁.Perm items₂) (hv : vars₁.Perm vars₂) :
    accepts allowRecipes allowVars items₁ vars₁ = accepts allowRecipes allowVars items₂ vars₂ :=
  Bool.eq_iff_iff.mpr <| by rw [accepts_iff, accepts_iff, hi.pairwise_iff Compatible.symm, hv.nodup_iff]

/-- non-vacuity: three recipes met in two different orders give one table -/
example : keysOf (build [("test", 1), ("build", 2), ("lint", 3)]) = ["build", "lint", "test"] ∧
    build [("test", 1), ("build", 2), ("lint", 3)] = build [("lint", 3), ("test", 1), ("build", 2)] := by
  decide +kernel

/-- **the suggestion in an "unknown recipe" error is a function of the SET of definitions**: in whatever order recipes
and aliases are defined, the same name is suggested (the candidates come out of ordered tables) — for every edit
distance function -/
theorem suggestion_independent_of_definition_order {α β : Type} (dist : String → Nat)
    (r₁ r₂ : List (String × α)) (a₁ a₂ : List (String × β))
    (hr : (r₁.map Prod.fst).Nodup) (ha : (a₁.map Prod.fst).Nodup) (pr : r₁.Perm r₂) (pa : a₁.Perm a₂) :
    suggestRecipe dist r₁ a₁ = suggestRecipe dist r₂ a₂ := by
  unfold suggestRecipe
  rw [table_independent_of_definition_order r₁ r₂ hr pr, table_independent_of_definition_order a₁ a₂ ha pa]

theorem pickNearest_some (dist : String → Nat) : ∀ (l : List String) (b : String),
    ∃ s, pickNearest dist (some b) l = some s ∧ s ∈ b :: l ∧ ∀ c ∈ b :: l, dist s ≤ dist c := by
  intro l
  induction l with
  | nil => exact fun b => ⟨b, rfl, .head _, fun c hc => by cases List.mem_singleton.mp hc; exact Nat.le_refl _⟩
  | cons c cs ih =>
    intro b
    rw [pickNearest]
    split
    · obtain ⟨s, hs, hmem, hall⟩ := ih c
      exact ⟨s, hs, .tail _ hmem, fun x hx => (List.mem_cons.mp hx).elim (fun e => by subst e; have := hall c (.head _); omega) (hall x)⟩
    · obtain ⟨s, hs, hmem, hall⟩ := ih b
      refine ⟨s, hs, (List.mem_cons.mp hmem).elim (fun e => e ▸ .head _) fun h => .tail _ (.tail _ h), fun x hx => ?_⟩
      rcases List.mem_cons.mp hx with rfl | hx
      · exact hall _ (.head _)
      · rcases List.mem_cons.mp hx with rfl | hx
        · have := hall b (.head _); omega
        · exact hall x (.tail _ hx)

theorem suggest_cases (dist : String → Nat) (cands : List String) :
    (suggest dist cands = none ∧ cands.filter (fun c => dist c < 3) = []) ∨
      ∃ s, suggest dist cands = some s ∧ s ∈ cands.filter (fun c => dist c < 3) ∧
        ∀ c ∈ cands.filter (fun c => dist c < 3), dist s ≤ dist c := by
  unfold suggest
  cases cands.filter (fun c => decide (dist c < 3)) with
  | nil => exact .inl ⟨rfl, rfl⟩
  | cons c cs => exact .inr (pickNearest_some dist cs c)

theorem suggestion_is_nearest (dist : String → Nat) (cands : List String) (s : String) (h : suggest dist cands = some s) :
    s ∈ cands ∧ dist s < 3 ∧ ∀ c ∈ cands, dist s ≤ dist c := by
  rcases suggest_cases dist cands with ⟨hn, _⟩ | ⟨s', hs', hm, hall⟩
  · rw [hn] at h; cases h
  · cases hs'.symm.trans h
    have hs := List.mem_filter.mp hm
    have hs3 : dist s < 3 := of_decide_eq_true hs.2
    refine ⟨hs.1, hs3, fun c hc => ?_⟩
    by_cases hc3 : dist c < 3
    · exact hall c (List.mem_filter.mpr ⟨hc, decide_eq_true hc3⟩)
    · omega

theorem no_suggestion_iff (dist : String → Nat) (cands : List String) :
    suggest dist cands = none ↔ ∀ c ∈ cands, 3 ≤ dist c := by
  have hf : cands.filter (fun c => decide (dist c < 3)) = [] ↔ ∀ c ∈ cands, 3 ≤ dist c := by
    simp only [List.filter_eq_nil_iff, decide_eq_true_eq, Nat.not_lt]
  rw [← hf]
  rcases suggest_cases dist cands with ⟨hn, hnil⟩ | ⟨s, hs, hm, _⟩
  · exact iff_of_true hn hnil
  · exact iff_of_false (by rw [hs]; nofun) fun e => by rw [e] at hm; cases hm

/-- **with candidates taken from a hash table the suggestion depends on the iteration order** whenever two candidates
are equally near (the seeded change C20-m7 chained the constants' `HashMap` keys) -/
theorem suggestion_depends_on_candidate_order :
    suggest (fun _ => 2) ["RED", "GREEN"] ≠ suggest (fun _ => 2) ["GREEN", "RED"] := by decide

end Just.Props.C20
