import Just.Lemmas.Render
import Just.Lemmas.LexerSafe2
import Just.Model.Loader
/-
C12  Diagnostics point at the offending token.

Model: `Just.Lexer` (a port of src/lexer.rs, tied to the code by the token-for-token differential
check) and `Just.Render.context` (src/token.rs `ColorDisplay for Token`, tied by comparing rendered
diagnostics).  The theorems hold for every source text, of any length, with any mixture of tabs,
CRLF, multi-byte and wide characters (display width is an arbitrary function `w`).
-/
namespace Just.C12
open Just.Lexer Just.Render

/-- what "the position of a token" means, spelled out: the token is a span `lex` of the source
after a prefix `pre`; offset and length count UTF-8 bytes, the line is the number of line feeds in
`pre` and the column the number of bytes after the last of them -/
def Located (src : List Char) (t : Tok) : Prop :=
  ∃ pre lex post, src = pre ++ lex ++ post ∧ t.offset = utf8Len pre ∧ t.length = utf8Len lex
    ∧ t.line = pre.count '\n' ∧ t.column = utf8Len (lastLine pre)

theorem located_of_spans {src : List Char} {t : Tok} (h : Spans src t) : Located src t := by
  obtain ⟨pre, lex, post, h1, h2, h3, h4, h5⟩ := h
  exact ⟨pre, lex, post, h1, by rw [h2, posOf_offset], h5, by rw [h3, posOf_line], by rw [h4, posOf_column]⟩

theorem tokenize_ok {src : List Char} {toks : List Tok} (h : tokenize src = .ok toks) :
    ∃ s, toks = s.tokens.reverse ∧ Final src s := by
  rw [tokenize_eq] at h
  cases hm : tokenizeM src (initial src) with
  | error e => rw [hm] at h; cases h
  | ok p => rw [hm] at h; cases h; exact ⟨p.2, rfl, (tokenizeM_spec src).ok rfl hm⟩

theorem tokenize_err {src : List Char} {e : Err} (h : tokenize src = .error e) :
    e.kind.isDiagnostic = true ∧ Spans src e.tok := by
  rw [tokenize_eq] at h
  cases hm : tokenizeM src (initial src) with
  | error e' => rw [hm] at h; cases h; exact (tokenizeM_spec src).err rfl hm
  | ok p => rw [hm] at h; cases h

/-- every token produced by the lexer carries the exact offset, line and column of its lexeme -/
theorem token_positions (src : List Char) (toks : List Tok) (h : tokenize src = .ok toks) :
    ∀ t ∈ toks, Located src t := by
  obtain ⟨s, rfl, hs⟩ := tokenize_ok h
  exact fun t ht => located_of_spans (hs.inv.tokens t (by simpa using ht))

/-- every error raised by the lexer points at a span of the source with exact coordinates
(the token in progress, the opening delimiter of an unterminated string, or the opening `{{`) -/
theorem error_position (src : List Char) (e : Err) (h : tokenize src = .error e) : Located src e.tok :=
  located_of_spans (tokenize_err h).2

/-- the tokens tile the source: the first starts at byte 0, each starts where the previous one
ends, and the last ends at the end of the text — no byte is skipped or counted twice -/
theorem tokens_tile (src : List Char) (toks : List Tok) (h : tokenize src = .ok toks) :
    Tiled toks.reverse (utf8Len src) := by
  obtain ⟨s, rfl, hs⟩ := tokenize_ok h
  simpa [hs.offset] using hs.inv.tiled

/-- Rendering of a located token that lies on one line.  `pre` is everything before the token, `lex`
the token, `tail` the rest of its line, `eol` what follows (nothing, LF…, or CRLF…).  The printed
line number and column are one-based line/byte-column of the token, the echoed text is exactly the
token's source line (tabs expanded, terminator removed), the carets start at the display width of
the text before the token and are as wide as the token is displayed. -/
theorem context_points (w : Char → Nat) (pre lex tail eol : List Char) (t : Tok)
    (hline : t.line = pre.count '\n') (hcol : t.column = utf8Len (lastLine pre))
    (hlen : t.length = utf8Len lex) (hne : lex ≠ [])
    (hnl : '\n' ∉ lex ++ tail)
    (heol : eol = [] ∨ (∃ b, eol = '\n' :: b ∧ (lex ++ tail).getLast? ≠ some '\r') ∨ (∃ b, eol = '\r' :: '\n' :: b)) :
    context w (pre ++ lex ++ tail ++ eol) t = some
      { lineNumber := pre.count '\n' + 1
        columnNumber := utf8Len (lastLine pre) + 1
        echoed := expandTabs (lastLine pre ++ lex ++ tail)
        caretOffset := dispWidth w (lastLine pre)
        caretCount := max (dispWidth w lex) 1 } := by
  have hne2 : lex ++ tail ≠ [] := fun h => hne (List.append_eq_nil_iff.mp h).1
  have hw : utf8Len lex = (if t.length = 0 then 1 else t.length) := by
    have : 0 < utf8Len lex := Nat.pos_of_ne_zero fun h => hne (utf8Len_eq_zero h)
    rw [hlen]; split <;> omega
  rw [List.append_assoc pre]
  refine context_line w pre lex tail eol t hline hcol (Nat.le_of_eq hw) (.inr hw) hnl
    (heol.imp (⟨·, hne2⟩) (Or.imp_left fun ⟨b, hb, hcr⟩ => ⟨b, hb, ?_⟩))
  -- the line's last character is that of `lex ++ tail`, which is not empty
  rwa [List.getLast?_append, List.getLast?_eq_some_getLast hne2, Option.some_or, ← List.getLast?_eq_some_getLast hne2]

/-- A token that continues on following lines (a multi-line string or backtick): the echoed line is
the token's first line and the underline is clipped to it. -/
theorem context_multiline (w : Char → Nat) (pre lex1 lex2 post : List Char) (t : Tok)
    (hline : t.line = pre.count '\n') (hcol : t.column = utf8Len (lastLine pre))
    (hlen : t.length = utf8Len (lex1 ++ '\n' :: lex2)) (hnl : '\n' ∉ lex1)
    (hcr : (lastLine pre ++ lex1).getLast? ≠ some '\r') :
    context w (pre ++ (lex1 ++ '\n' :: lex2) ++ post) t = some
      { lineNumber := pre.count '\n' + 1
        columnNumber := utf8Len (lastLine pre) + 1
        echoed := expandTabs (lastLine pre ++ lex1)
        caretOffset := dispWidth w (lastLine pre)
        caretCount := max (dispWidth w lex1) 1 } := by
  have hw : utf8Len lex1 ≤ (if t.length = 0 then 1 else t.length) := by
    rw [hlen]; simp only [utf8Len_append, utf8Len_cons]; split <;> omega
  -- the part of the token on its first line is `lex1`, nothing else stands on that line, the line feed follows
  rw [show pre ++ (lex1 ++ '\n' :: lex2) ++ post = pre ++ (lex1 ++ []) ++ '\n' :: (lex2 ++ post) by simp, ← List.append_nil (_ ++ lex1)]
  exact context_line w pre lex1 [] _ t hline hcol hw (.inl rfl) (by rwa [List.append_nil])
    (.inr (.inl ⟨_, rfl, by rwa [List.append_nil]⟩))

/-- a located token whose line `str::lines` does not yield is at the very end of the text, on the line after the final
line feed -/
theorem no_line_is_end_of_file (src : List Char) (t : Tok) (hloc : Spans src t)
    (hnone : (lines src)[t.line]? = none) : t.offset = utf8Len src := by
  obtain ⟨pre, lex, post, h1, h2, h3, _, _⟩ := hloc
  have := lines_at pre (lex ++ post)
  rw [← h3, ← List.append_assoc, ← h1, hnone] at this
  have : lex ++ post = [] := by
    apply linesGo_eq_nil _ (accAfter pre [])
    cases hl : linesGo (lex ++ post) (accAfter pre []) with
    | nil => rfl
    | cons a b => rw [hl] at this; simp at this
  rw [h2, posOf_offset, h1]
  rw [List.append_assoc, this]; simp

/-- **Every located token gets a context**: a location, an echoed line and carets are printed for every token the lexer
produces and every error token - the "invalid line number" internal error is unreachable, and so is the silent case in
which nothing is printed: a token past the last line stands at the end of the file (`context_end_of_file`). -/
theorem context_always (w : Char → Nat) (src : List Char) (t : Tok) (hloc : Spans src t) : (context w src t).isSome = true := by
  unfold context
  cases hnone : (lines src)[t.line]? with
  | some l => simp
  | none => simp [no_line_is_end_of_file src t hloc hnone]

/-- at the end of a file that ends with a line feed: the line after the last one, shown empty, one caret -/
theorem context_end_of_file (w : Char → Nat) (src : List Char) (t : Tok) (hloc : Spans src t)
    (hnone : (lines src)[t.line]? = none) :
    context w src t = some { lineNumber := t.line + 1, columnNumber := t.column + 1, echoed := [],
                             caretOffset := 0, caretCount := 1 } := by
  unfold context
  simp [hnone, no_line_is_end_of_file src t hloc hnone, scan, expandTabs]

/-- non-vacuity: a token after a tab and a wide (CJK) character, in a CRLF file -/
example :
    context (fun c => if c = '中' then 2 else 1) "a\r\n\t中x := y\r\nb".toList ⟨.identifier, 12, 1, 1, 9⟩
      = some { lineNumber := 2, columnNumber := 10, echoed := "    中x := y".toList, caretOffset := 11, caretCount := 1 } := by
  -- a literal is `String.ofList` of its characters: no decoding of its bytes
  repeat rw [String.toList_ofList]
  decide +kernel

section FileNames
open Just.Loader

/-- **the name shown identifies the file**: two source files of one run (absolute, cleaned paths) that are shown under
the same name are the same file — whether they lie below the root justfile's directory (shown relative to it) or
outside (shown by their whole path).  A name that dropped a directory (`sub/mod.just` shown as `mod.just`, the seeded
change C12-m10) would name two files alike. -/
theorem shown_name_identifies_file (rootDir p q : List String) (h : display rootDir p = display rootDir q) : p = q := by
  unfold display at h
  cases hp : stripPrefix rootDir p <;> cases hq : stripPrefix rootDir q <;>
    simp only [hp, hq, Shown.relative.injEq, Shown.absolute.injEq, reduceCtorEq] at h
  · exact h
  · rw [stripPrefix_some _ _ _ hp, stripPrefix_some _ _ _ hq, h]

/-- a file below the root justfile's directory is shown by its path from there, every directory included -/
theorem shown_relative (rootDir rest : List String) : display rootDir (rootDir ++ rest) = .relative rest := by
  have : stripPrefix rootDir (rootDir ++ rest) = some rest := by
    induction rootDir with
    | nil => rfl
    | cons d ds ih => simp [stripPrefix, ih]
  simp [display, this]

example : (display ["w", "proj"] ["w", "proj", "sub", "mod.just"]).text = "sub/mod.just" ∧
    (display ["w", "proj"] ["w", "other", "x.just"]).text = "/w/other/x.just" := by decide +kernel

end FileNames

end Just.C12
