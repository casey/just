/-
C18 — environment files are located and applied as documented.
-/
import Just.Model.Dotenv
import Just.Lemmas.First
namespace Just.Props.C18
open Just.Dotenv

/-- **no dotenv setting or flag active ⇒ nothing is probed or loaded**, whatever files exist -/
theorem inactive_reads_nothing (c : Cfg) (fs : FS) (h1 : c.setLoad = false) (h2 : c.setFilename = none)
    (h3 : c.setPath = none) (h4 : c.setRequired = false) (h5 : c.flagFilename = none)
    (h6 : c.flagPath = none) : load c fs = .inactive := by
  unfold load active filenameOf pathOf
  simp [h1, h2, h3, h4, h5, h6]

/-- **`--no-dotenv` disables loading** whatever the settings say -/
theorem no_dotenv_flag_disables (c : Cfg) (fs : FS) (h : c.noDotenv = true) : load c fs = .inactive := by
  unfold load; simp [h]

/-- **flags take precedence over settings**: a flag behaves exactly like the corresponding
setting with that value, and the setting's own value is ignored -/
theorem flags_override_settings_filename (c : Cfg) (fs : FS) (f : String) (s : Option String) :
    load { c with flagFilename := some f, setFilename := s } fs =
      load { c with flagFilename := none, setFilename := some f } fs := by
  unfold load active filenameOf pathOf
  simp

theorem flags_override_settings_path (c : Cfg) (fs : FS) (p : String) (s : Option String) :
    load { c with flagPath := some p, setPath := s } fs =
      load { c with flagPath := none, setPath := some p } fs := by
  unfold load active filenameOf pathOf
  simp

/-- **dotenv-path first**: if the file at dotenv-path exists it is the one loaded -/
theorem path_wins (c : Cfg) (fs : FS) (p : String) (hn : c.noDotenv = false)
    (hp : pathOf c = some p) (he : fs.pathIsFile p = true) : load c fs = .loadedPath p := by
  unfold load active
  simp [hn, hp, he]

/-- **otherwise the first file named dotenv-filename (default `.env`) in the working directory or
its ancestors** — also when dotenv-path is set but missing -/
theorem then_filename (c : Cfg) (fs : FS) (hn : c.noDotenv = false) (ha : active c = true)
    (hp : ∀ p, pathOf c = some p → fs.pathIsFile p = false) :
    load c fs = match findFile ((filenameOf c).getD Generated.defaultDotenvName) fs.ancestors 0 with
      | some l => .loadedFile l ((filenameOf c).getD Generated.defaultDotenvName)
      | none => if c.setRequired then .errorRequired else .empty := by
  unfold load
  simp only [hn, ha, Bool.false_eq_true, if_false, Bool.not_true]
  cases hpo : pathOf c with
  | none => rfl
  | some p =>
    simp only [hp p hpo, Bool.false_eq_true, if_false]
    cases findFile ((filenameOf c).getD Generated.defaultDotenvName) fs.ancestors 0 <;> rfl

theorem findFile_nearest (name : String) (ds : List (List String)) (i l : Nat)
    (h : findFile name ds i = some l) :
    i ≤ l ∧ (∀ j, j < l - i → ∀ d, ds[j]? = some d → d.contains name = false) ∧
      (∃ d, ds[l - i]? = some d ∧ d.contains name = true) := by
  fun_induction findFile name ds i
  case case1 => cases h
  case case2 hc => cases h; exact FirstAt.here (hit := fun d : List String => d.contains name = true) hc
  case case3 hc ih =>
    exact FirstAt.next (skip := fun d : List String => d.contains name = false) (Bool.not_eq_true _ ▸ hc) (ih h)

/-- **a missing file is an error only under dotenv-required** -/
theorem missing_error_iff_required (c : Cfg) (fs : FS) :
    load c fs = .errorRequired →
      c.setRequired = true ∧ c.noDotenv = false ∧
        findFile ((filenameOf c).getD Generated.defaultDotenvName) fs.ancestors 0 = none := by
  intro h
  have hn : c.noDotenv = false := by
    cases hn : c.noDotenv with
    | false => rfl
    | true => rw [no_dotenv_flag_disables c fs hn] at h; cases h
  have ha : active c = true := by
    cases ha : active c with
    | true => rfl
    | false => simp [load, hn, ha] at h
  have hp : ∀ p, pathOf c = some p → fs.pathIsFile p = false := fun p hp => by
    cases he : fs.pathIsFile p with
    | false => rfl
    | true => rw [path_wins c fs p hn hp he] at h; cases h
  rw [then_filename c fs hn ha hp] at h
  split at h
  · cases h
  · split at h
    · exact ⟨‹_›, hn, ‹_›⟩
    · cases h

/-- **loaded entries never override a variable already present in just's environment** -/
theorem environment_wins (environment : String → Option String) (file : List (String × String))
    (name v : String) (h : environment name = some v) : visible environment file name = some v := by
  simp [visible, h]

/-- and entries for new names are visible with the file's value (first entry wins) -/
theorem new_entries_visible (environment : String → Option String) (file : List (String × String))
    (name : String) (h : environment name = none) :
    visible environment file name = (file.filter (fun kv => (environment kv.1).isNone)).lookup name := by
  simp [visible, h, merge]

/-- non-vacuity: `set dotenv-path` pointing nowhere falls back to `.env` of the parent directory -/
example : load { setPath := some "missing.env" } ⟨fun _ => false, [["justfile"], [".env", "x"]]⟩ = .loadedFile 1 ".env" := by
  decide +kernel

/-- the file searched for when no name is given is `.env` (read from src/load_dotenv.rs on every run) -/
theorem default_name_is_documented : Generated.defaultDotenvName = ".env" := rfl

end Just.Props.C18
