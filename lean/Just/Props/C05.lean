/-
C05 — command-line words bind to recipes and parameters as documented.
Theorems about `Just.Args` (model of the argument parser and `evaluate_parameters`).
-/
import Just.Model.Args
import Just.Lemmas.Words
namespace Just.Props.C05
open Just.Args

/-! ### grouping: every word is used exactly once, in order, within each recipe's arity

One statement per stage of the parser, about its result: what an `.ok` carries, and that an
`.error` is never `.fuel`.  The property theorems are read off the last one. -/

theorem resolve_spec (mp : Bool) (cur : Mod) (args path : List String) (i : Nat) :
    match resolve mp cur args path i with
    | .ok (_, _, n) => i ≤ n ∧ n ≤ i + args.length ∧ (args ≠ [] → i < n)
    | .error e => e ≠ .fuel := by
  fun_induction resolve mp cur args path i with
  | case5 cur a rest path i m hm ih =>
    -- the word names a submodule: the rest is resolved there, one word further on
    split at ih
    · simp only [List.length_cons, ne_eq, reduceCtorEq, not_false_eq_true, forall_const]; omega
    · exact ih
  | case1 | case2 | case3 | case4 | case6 | case7 | case8 | case9 => simp

theorem resolveHead_spec (root : Mod) (words : List String) :
    match resolveHead root words with
    | .ok (_, _, pathWords, rest) => words = pathWords ++ rest ∧ (words ≠ [] → pathWords ≠ [])
    | .error e => e ≠ .fuel := by
  fun_cases resolveHead root words with
  -- the errors are those of `resolve`
  | case1 e h => have := resolve_spec false root [] [] 0; simp only [h] at this ⊢; exact this
  | case4 _ _ _ comps _ e h =>
    have := resolve_spec true root comps [] 0; simp only [h] at this ⊢; exact this
  | case6 next after _ e h =>
    have := resolve_spec false root (next :: after) [] 0; simp only [h] at this ⊢; exact this
  | case2 | case3 | case5 => simp
  | case7 next after _ r path n h =>
    -- plain words: the path words are as many as `resolve` says it used
    have := resolve_spec false root (next :: after) [] 0
    simp only [h] at this ⊢
    refine ⟨(List.take_append_drop ..).symm, fun _ hnil => ?_⟩
    -- at least one word was used, so the words taken are not none
    have hl := congrArg List.length hnil
    simp only [List.length_take, List.length_cons, List.length_nil] at hl
    have := this.2.2 (by simp); omega

/-- the last conjunct is greediness: the group takes as many of the words after its path as
`argCount` allows -/
theorem parseGroup_spec (root : Mod) (words : List String) :
    match parseGroup root words with
    | .ok (g, rest) => words = g.pathWords ++ g.args ++ rest ∧ (words ≠ [] → g.pathWords ≠ []) ∧
        minArgs g.sig ≤ g.args.length ∧ g.args.length = argCount g.sig (g.args.length + rest.length)
    | .error e => e ≠ .fuel := by
  have hh := resolveHead_spec root words
  fun_cases parseGroup root words with
  | case1 e he => simp only [he] at hh ⊢; exact hh
  | case2 => simp
  | case3 r path pw rest0 he hmin =>
    simp only [he] at hh ⊢
    refine ⟨by rw [List.append_assoc, List.take_append_drop]; exact hh.1, hh.2, ?_⟩
    have hle : argCount r rest0.length ≤ rest0.length := by
      unfold argCount; split <;> omega
    simp only [List.length_take, List.length_drop]
    rw [show min (argCount r rest0.length) rest0.length + (rest0.length - argCount r rest0.length)
      = rest0.length by omega]
    omega

/-- arity of one group: between min and max of its recipe, and greedy (`min(|rest|, max)`) -/
theorem parseGroup_arity (root : Mod) (words : List String) (g : Group) (rest : List String)
    (h : parseGroup root words = .ok (g, rest)) :
    minArgs g.sig ≤ g.args.length ∧
      (match maxArgs g.sig with
        | none => rest = []
        | some m => g.args.length ≤ m ∧ (rest ≠ [] → g.args.length = m)) := by
  have := parseGroup_spec root words
  rw [h] at this
  obtain ⟨-, -, hmin, hgreedy⟩ := this
  refine ⟨hmin, ?_⟩
  unfold argCount at hgreedy
  have hr : rest ≠ [] → 0 < rest.length := List.length_pos_iff.mpr
  cases hm : maxArgs g.sig <;> simp only [hm] at hgreedy ⊢
  · exact List.eq_nil_of_length_eq_zero (by omega)
  · exact ⟨by omega, fun hne => by have := hr hne; omega⟩

theorem parseGroup_ok {root : Mod} {words rest : List String} {g : Group}
    (h : parseGroup root words = .ok (g, rest)) :
    words = g.pathWords ++ g.args ++ rest ∧ (rest ≠ [] → rest.length < words.length) ∧
      minArgs g.sig ≤ g.args.length ∧
        (match maxArgs g.sig with
          | none => True
          | some m => g.args.length ≤ m) := by
  have := parseGroup_spec root words
  rw [h] at this
  obtain ⟨hp, hpw, hmin, -⟩ := this
  have hmax := (parseGroup_arity root words g rest h).2
  refine ⟨hp, fun hr => ?_, hmin, ?_⟩
  · have hw : words ≠ [] := fun e => hr (List.append_eq_nil_iff.mp (e ▸ hp).symm).2
    have := List.length_pos_iff.mpr (hpw hw)
    have := congrArg List.length hp
    simp only [List.length_append] at this; omega
  · cases hm : maxArgs g.sig <;> simp only [hm] at hmax ⊢
    exact hmax.1

/-- the loop with the fuel `parseArguments` gives it: every group takes a word, so the fuel lasts;
the groups tile the words; each is within its arity -/
theorem parseLoop_spec (root : Mod) (fuel : Nat) (words : List String) (hf : words.length < fuel) :
    match parseLoop root fuel words with
    | .ok gs => words = (gs.map (fun g => g.pathWords ++ g.args)).flatten ∧
        ∀ g ∈ gs, minArgs g.sig ≤ g.args.length ∧
          (match maxArgs g.sig with
            | none => True
            | some m => g.args.length ≤ m)
    | .error e => e ≠ .fuel := by
  fun_induction parseLoop root fuel words with
  | case1 => omega
  | case2 fuel words e he => have := parseGroup_spec root words; rw [he] at this; exact this
  | case3 fuel words g rest hg hr =>
    -- the last group
    obtain ⟨hp, -, ha⟩ := parseGroup_ok hg
    rw [List.isEmpty_iff.mp hr, List.append_nil] at hp
    exact ⟨by simpa using hp, fun g' hg' => List.mem_singleton.mp hg' ▸ ha⟩
  | case4 fuel words g rest hg hr e he ih =>
    -- an error in a later group: the fuel lasts for the rest, so it is not `.fuel`
    obtain ⟨-, hlt, -⟩ := parseGroup_ok hg
    have := ih (by have := hlt (fun e => hr (e ▸ rfl)); omega)
    rwa [he] at this
  | case5 fuel words g rest hg hr gs he ih =>
    obtain ⟨hp, hlt, ha⟩ := parseGroup_ok hg
    have ih := ih (by have := hlt (fun e => hr (e ▸ rfl)); omega)
    rw [he] at ih
    refine ⟨by rw [List.map_cons, List.flatten_cons, ← ih.1]; exact hp, fun g' hg' => ?_⟩
    rcases List.mem_cons.mp hg' with rfl | hg'
    · exact ha
    · exact ih.2 g' hg'

/-- **every word is used exactly once, in order**: on success the path words and arguments of the
groups, concatenated, are the command line. -/
theorem groups_partition (root : Mod) (words : List String) (gs : List Group)
    (h : parseArguments root words = .ok gs) :
    words = (gs.map (fun g => g.pathWords ++ g.args)).flatten := by
  have := parseLoop_spec root _ words (Nat.lt_succ_self _)
  rw [show parseLoop root _ words = _ from h] at this
  exact this.1

/-- **each recipe receives a number of words within its arity** -/
theorem group_arity (root : Mod) (words : List String) (gs : List Group)
    (h : parseArguments root words = .ok gs) :
    ∀ g ∈ gs, minArgs g.sig ≤ g.args.length ∧
      (match maxArgs g.sig with
        | none => True
        | some m => g.args.length ≤ m) := by
  have := parseLoop_spec root _ words (Nat.lt_succ_self _)
  rw [show parseLoop root _ words = _ from h] at this
  exact this.2

/-- **termination**: the grouping loop always finishes within its fuel -/
theorem parse_fuel_enough (root : Mod) (words : List String) :
    parseArguments root words ≠ .error .fuel := by
  intro h
  have := parseLoop_spec root _ words (Nat.lt_succ_self _)
  rw [show parseLoop root _ words = _ from h] at this
  exact this rfl

/-! ### binding words to parameters -/

def requiredCount (ps : List Param) : Nat :=
  (ps.filter (fun p => p.default.isNone && p.kind != .star)).length

theorem requiredCount_cons (p : Param) (ps : List Param) :
    requiredCount (p :: ps) =
      (if p.default.isNone && p.kind != .star then 1 else 0) + requiredCount ps := by
  simp only [requiredCount, List.filter_cons]
  split
  · rw [List.length_cons]; omega
  · omega

theorem bindArgs_length {ps : List Param} {ws bound vs : List String}
    (h : bindArgs ps ws bound = .ok vs) : vs.length = bound.length + ps.length := by
  fun_induction bindArgs ps ws bound with
  | case1 => cases h; rfl
  | case4 => cases h
  | case2 _ _ _ _ _ ih | case3 _ _ _ _ _ ih | case5 _ _ _ _ _ _ ih | case6 _ _ _ _ _ _ ih =>
    rw [ih h, List.length_append, List.length_cons, List.length_cons, List.length_nil]; omega

/-- Binding fails only where a required parameter meets no word.  For a parameter list the analyzer
accepts, the required parameters come first and are all singular, so `requiredCount` words are
enough; surplus words never make it fail. -/
theorem bindArgs_ok {ps : List Param} {ws : List String} (bound : List String)
    (hv : validParams ps = true) (hmin : requiredCount ps ≤ ws.length) :
    ∃ vs, bindArgs ps ws bound = .ok vs := by
  fun_induction bindArgs ps ws bound with
  | case1 => exact ⟨_, rfl⟩
  | case2 p ps bound d hd ih =>
    simp only [validParams, Bool.and_eq_true] at hv
    exact ih hv.2 (by simpa [requiredCount_cons, hd] using hmin)
  | case3 p ps bound hd hk ih =>
    simp only [validParams, Bool.and_eq_true] at hv
    exact ih hv.2 (by simpa [requiredCount_cons, hd, hk] using hmin)
  | case4 p ps bound hd hk => simp [requiredCount_cons, hd, hk] at hmin
  | case5 p ps w ws bound hvar ih =>
    -- a variadic parameter is the last one
    simp only [validParams, hvar, if_true, Bool.and_eq_true, List.isEmpty_iff] at hv
    obtain ⟨⟨rfl, _⟩, _⟩ := hv
    exact ⟨_, rfl⟩
  | case6 p ps w ws bound hvar ih =>
    simp only [validParams, Bool.and_eq_true] at hv
    refine ih hv.2 ?_
    cases hd : p.default with
    | some d =>
      -- everything after a defaulted parameter is optional
      have hall := hv.1.2
      simp only [hd, Option.isSome_some, if_true] at hall
      have : requiredCount ps = 0 := by
        simp only [requiredCount, List.length_eq_zero_iff, List.filter_eq_nil_iff]
        intro q hq
        have := List.all_eq_true.mp hall q hq
        cases hqd : q.default <;> simp [hqd] at this ⊢
        exact this
      omega
    | none =>
      have hk : p.kind = .singular := by
        cases hk : p.kind <;> simp [Param.isVariadic, hk] at hvar ⊢
      simp only [requiredCount_cons, hd, hk, List.length_cons] at hmin
      simp at hmin; omega

/-- **no required parameter is ever left without a value**: for a parameter list the analyzer
accepts and a number of words within `[min, max]`, binding succeeds and yields one value per
parameter. -/
theorem bind_total (ps : List Param) (ws bound : List String) (hv : validParams ps = true)
    (hmin : requiredCount ps ≤ ws.length)
    (hmax : ps.any Param.isVariadic = false → ws.length ≤ ps.length) :
    ∃ vs, bindArgs ps ws bound = .ok vs ∧ vs.length = bound.length + ps.length :=
  let ⟨vs, h⟩ := bindArgs_ok bound hv hmin
  ⟨vs, h, bindArgs_length h⟩

/-- words bind left to right: a singular parameter takes the next word -/
theorem bind_singular (p : Param) (ps : List Param) (w : String) (ws bound : List String)
    (h : p.kind = .singular) : bindArgs (p :: ps) (w :: ws) bound = bindArgs ps ws (bound ++ [w]) := by
  simp [bindArgs, Param.isVariadic, h]

/-- a variadic parameter receives ALL remaining words joined by single spaces -/
theorem bind_variadic (p : Param) (w : String) (ws bound : List String) (h : p.kind ≠ .singular) :
    bindArgs [p] (w :: ws) bound = .ok (bound ++ [joinWith " " (w :: ws)]) := by
  have : p.isVariadic = true := by cases hk : p.kind <;> simp_all [Param.isVariadic]
  simp [bindArgs, this]

/-- `*` may be empty; `+` may not -/
theorem bind_star_empty (bound : List String) :
    bindArgs [⟨.star, none⟩] [] bound = .ok (bound ++ [""]) := by
  simp [bindArgs]

theorem bind_plus_needs_word (bound : List String) :
    bindArgs [⟨.plus, none⟩] [] bound = .error .missingParameter := by
  simp [bindArgs]

/-- an omitted parameter takes its default, evaluated with exactly the earlier parameters -/
theorem bind_default (p : Param) (ps : List Param) (d : List Piece) (bound : List String)
    (h : p.default = some d) :
    bindArgs (p :: ps) [] bound = bindArgs ps [] (bound ++ [evalDefault bound d]) := by
  simp [bindArgs, h]

/-- a default is used only when the word is omitted -/
theorem bind_given_ignores_default (k : PKind) (d d' : Option (List Piece)) (ps : List Param)
    (w : String) (ws bound : List String) :
    bindArgs (⟨k, d⟩ :: ps) (w :: ws) bound = bindArgs (⟨k, d'⟩ :: ps) (w :: ws) bound := by
  simp [bindArgs, Param.isVariadic]

/-! ### overrides are leading `NAME=VALUE` words only -/

theorem positional_args_sticky (ws : List String) (acc : Positional) (h : acc.args ≠ []) :
    (positional ws acc).overrides = acc.overrides ∧
      (positional ws acc).args = acc.args ++ ws ∧ (positional ws acc).searchDir = acc.searchDir := by
  induction ws generalizing acc with
  | nil => exact ⟨rfl, (List.append_nil _).symm, rfl⟩
  | cons w ws ih =>
    have hne : acc.args.isEmpty = false := by
      cases ha : acc.args with
      | nil => exact absurd ha h
      | cons => rfl
    rw [positional, hne, Bool.and_false, if_neg Bool.false_ne_true]
    have := ih { acc with args := acc.args ++ [w] } (by simp)
    exact ⟨this.1, by rw [this.2.1, List.append_assoc]; rfl, this.2.2⟩

theorem positional_overrides : ∀ (pre : List String) (ovs acc0 : List (String × String)) (rest : List String),
    pre.map overrideOf = ovs.map some →
    positional (pre ++ rest) { overrides := acc0 } = positional rest { overrides := acc0 ++ ovs }
  | [], [], acc0, rest, _ => by rw [List.nil_append, List.append_nil]
  | [], _ :: _, _, _, h => by cases h
  | _ :: _, [], _, _, h => by cases h
  | p :: pre, o :: ovs, acc0, rest, h => by
    rw [List.map_cons, List.map_cons, List.cons.injEq] at h
    rw [List.cons_append, positional]
    simp only [Option.isNone_none, List.isEmpty_nil, Bool.and_self, if_true, h.1]
    rw [positional_overrides pre ovs _ rest h.2, List.append_assoc]; rfl

/-- **leading `NAME=VALUE` words are overrides; nothing after the first other word is**: if the
word `w` is not of the form NAME=VALUE and names no directory, everything from `w` on is an
argument, whatever it looks like. -/
theorem overrides_are_leading (ovs : List (String × String)) (pre : List String) (w : String)
    (rest : List String)
    (hpre : pre.map overrideOf = ovs.map some)
    (hw : overrideOf w = none) (hdot : w ≠ "." ∧ w ≠ "..") (hslash : splitLastSlash w = none) :
    (positional (pre ++ w :: rest) {}).overrides = ovs ∧
      (positional (pre ++ w :: rest) {}).args = w :: rest := by
  rw [show ({} : Positional) = { overrides := [] } from rfl, positional_overrides pre ovs [] _ hpre,
    positional]
  have h1 : (w = "." || w = "..") = false := by simp [hdot.1, hdot.2]
  simp only [Option.isNone_none, List.isEmpty_nil, Bool.and_self, if_true, hw, h1, Bool.false_eq_true,
    if_false, hslash]
  have := positional_args_sticky rest { overrides := [] ++ ovs, args := [] ++ [w] } (by simp)
  exact ⟨this.1, this.2.1⟩

/-! ### non-vacuity -/

example : validParams [⟨.singular, none⟩, ⟨.singular, some [.lit "d", .ref 0]⟩, ⟨.star, none⟩] = true := by
  decide

example : bindArgs [⟨.singular, none⟩, ⟨.singular, some [.lit "d", .ref 0]⟩, ⟨.star, none⟩] ["x"] [] =
    .ok ["x", "dx", ""] := by
  simp [bindArgs, evalDefault, Param.isVariadic]

/-! ### one leading word: override before directory (model `Just.Words`, on characters) -/
open Just.Words in
/-- **a leading `NAME=VALUE` word is an override whatever VALUE contains** — slashes, dots, `::`,
further `=` signs, nothing at all: the override test comes before the search-directory test, so
`prefix=/usr/local`, `out=build/x86` and `dir=../` set variables and name no directory -/
theorem override_whatever_the_value (n v : List Char) (hn : isIdentifier n = true) :
    classify (n ++ '=' :: v) = .override n v := by
  unfold classify
  rw [splitFirstEq_append n v (ident_no_eq n hn)]
  simp [hn]

open Just.Words in
/-- **`DIR/recipe`**: a leading word without `=` that contains a slash names the directory up to its
last slash, and what follows the slash — if anything — is the first argument -/
theorem dir_recipe_form (w : List Char) (hne : '=' ∉ w) (hs : '/' ∈ w) (hd : w ≠ ['.'] ∧ w ≠ ['.', '.']) :
    classify w = .searchDir (splitLastSlash w).1
      (if (splitLastSlash w).2 = [] then none else some (splitLastSlash w).2) := by
  have hsplit : splitFirstEq w = none := by
    clear hs hd
    induction w with
    | nil => rfl
    | cons c cs ih =>
      have hc : c ≠ '=' := fun e => hne (by simp [e])
      have := ih (fun m => hne (List.mem_cons_of_mem _ m))
      simp [splitFirstEq, hc, this]
  unfold classify
  rw [hsplit]
  simp [dirOrArgument, hd.1, hd.2, hs]

open Just.Words in
/-- non-vacuity -/
example : classify "prefix=/usr/local".toList = .override "prefix".toList "/usr/local".toList ∧
    classify "sub/dir/build".toList = .searchDir "sub/dir/".toList (some "build".toList) ∧
    classify "../".toList = .searchDir "../".toList none ∧
    classify "1a=x/y".toList = .searchDir "1a=x/".toList (some "y".toList) ∧
    classify "build".toList = .argument "build".toList := by
  -- a literal is `String.ofList` of its characters: no decoding of its bytes
  repeat rw [String.toList_ofList]
  decide +kernel

end Just.Props.C05
