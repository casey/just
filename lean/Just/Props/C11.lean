import Just.Props.C12
import Just.Lemmas.Unindent
import Just.Model.Body
import Just.Lemmas.Cook
import Just.Lemmas.ParserCalls
/-
C11  No input makes just panic, abort, hang or report an internal error.

What is proved here concerns the lexer (src/lexer.rs), the component whose `loop`, `assert_eq!`s
and `internal_error` sites the property is anchored in; the Lean port is tied to the code token
for token by the differential check - and the token-level model of the parser (`parse_ast` with everything it
calls, Model/Syntax, Header, Items, Ast; tied to parser.rs by the whole-file differential of C10): it cannot hang -
and the byte-offset slices of `Token::lexeme`, `unindent` and `run_linewise` and the `unwrap` of `cook_string`:
they cannot panic.
Analyzer, evaluator and command line are covered by enumeration through the in-process harness and the binary
(vlib/c11.py), not by theorems; the parser's recursion-depth guard and stack use are not modelled.
-/
namespace Just.C11
open Just.Lexer

/-- The lexer's main loop terminates on every text: the model's loop carries fuel `length + 1`, and
it is never exhausted.  (`Lexer.mainLoop_rule`: with any fuel above the length of the remaining text
the loop ends by its own test, so the fuel is an artefact of the model; the Rust `loop` it stands for
ends after at most `length + 1` rounds.) -/
theorem lexer_terminates (src : List Char) (e : Err) (h : tokenize src = .error e) : e.kind.isFuel = false :=
  ErrKind.not_fuel (C12.tokenize_err h).1

/-- Progress: every round of the main loop that does not end the loop consumes at least one
character, for every lexer state (not only reachable ones), in normal, body and interpolation mode. -/
theorem main_loop_progress (s s' : St) (h : stepMain s = .ok (true, s')) : s'.rest.length < s.rest.length :=
  (stepMain_ate (P := AnyState)).ok trivial h rfl

/-- No round of the main loop un-reads text. -/
theorem step_never_grows (s : St) (b : Bool) (s' : St) (h : stepMain s = .ok (b, s')) :
    s'.rest.length ≤ s.rest.length :=
  (fuelSound.stepMain.ok trivial h).2

/-- The "internal error: Error has invalid line number" branch of the diagnostic printer (`Render.context = none`) is
unreachable for every error token the lexer produces: a location, an echoed line and carets are always printed. -/
theorem lexer_error_never_invalid_line (w : Char → Nat) (src : List Char) (e : Err) (h : tokenize src = .error e) :
    (Render.context w src e.tok).isSome = true :=
  C12.context_always w src e.tok (C12.tokenize_err h).2

/-- **None of the lexer's `assert_eq!`s can fail**, on any text: neither
`assert_eq!(self.current_token_length(), 0)` in `lex_dedent` nor the three at the end of `tokenize`
(`token_start == token_end`, `token_start == src.len()`, `indentation.len() == 1`).  Proved through
three invariants of the main loop: the lexer is idle (no token in progress) at every loop head, the
indentation stack is an empty string under non-empty strings, and the loop ends with no text left.
(It rests on the `fix:` that lexes a backslash at the end of the file as whitespace: without it the backslash stays in an
unfinished token and the assertion of `lex_dedent` fails.) -/
theorem lexer_asserts_hold (src : List Char) (e : Err) (h : tokenize src = .error e) : e.kind.isAssert = false :=
  ErrKind.isAssert_le_isInternal (ErrKind.not_internal (C12.tokenize_err h).1)

/-- **The lexer is total and never reports an internal error.**  For every text, `tokenize` returns
tokens or an ORDINARY diagnostic: no `internal_error` site is reachable (`Lexer advanced past end of
text`, `Lexer presumed character`, `Lexer::error: expected string or backtick token start`,
`lex_string: invalid string start`, `lex_interpolation … empty interpolation stack`,
`lex_delimiter called with non-delimiter token`), no assertion fails, and the model's fuel is never
exhausted.  Proved by Hoare-style reasoning over the model: every `advance`/`presume` is guarded by
what the dispatch just looked at, the string scanner keeps "the lexeme starts with its delimiter",
the body scanner stops on text that is still there, `skip` never exceeds the leading white space. -/
theorem lexer_no_internal_error (src : List Char) (e : Err) (h : tokenize src = .error e) :
    e.kind.isInternal = false ∧ e.kind.isFuel = false :=
  ⟨ErrKind.not_internal (C12.tokenize_err h).1, ErrKind.not_fuel (C12.tokenize_err h).1⟩

/-- a round of the main loop that starts with no token in progress ends with none -/
theorem main_loop_idle (src : List Char) (s : St) (b : Bool) (s' : St) (hi : Inv src s) (hc : s.cur = [])
    (h : stepMain s = .ok (b, s')) : s'.cur = [] :=
  (stepMain_round.ok ⟨hi, hc, offsets_of_idle hi hc⟩ h).idle.1

/-! ### byte-offset slicing never leaves the text

Three places of the code slice strings by computed byte offsets (a panic in Rust when out of bounds
or inside a multi-byte character): `Token::lexeme`, `unindent`, and the sigil strip of `run_linewise`. -/

/-- `Token::lexeme` (`&src[offset..offset + length]`): for every token the lexer emits the slice is
exactly a run of whole characters of the source — in bounds and on character boundaries. -/
theorem lexeme_slice_valid (src : List Char) (toks : List Tok) (h : tokenize src = .ok toks) :
    ∀ t ∈ toks, ∃ pre lex post, src = pre ++ lex ++ post ∧ t.offset = utf8Len pre ∧ t.length = utf8Len lex := by
  intro t ht
  obtain ⟨pre, lex, post, h1, h2, h3, _, _⟩ := C12.token_positions src toks h t ht
  exact ⟨pre, lex, post, h1, h2, h3⟩

/-- `unindent` (`&line[common_indentation.len()..]`): the common indentation is a prefix of every line
that is sliced (every non-blank line), so the slice starts inside the line, after whole characters. -/
theorem unindent_slice_valid (text : List Char) :
    ∀ line ∈ Unindent.splitLines text [], Unindent.blank line = false →
      Unindent.commonIndentation (Unindent.splitLines text []) <+: line := by
  intro line hl hnb
  unfold Unindent.commonIndentation
  cases hf : Unindent.foldCommon none (Unindent.splitLines text []) with
  | none => exact List.nil_prefix
  | some r => exact ((Unindent.foldCommon_some hf).2.1 line hl hnb).trans (Unindent.indentation_prefix line)

/-- the characters `unindent` cuts off are spaces and tabs only (one byte each) -/
theorem unindent_cuts_blanks_only (text : List Char) :
    ∀ c ∈ Unindent.commonIndentation (Unindent.splitLines text []), c = ' ' ∨ c = '\t' := by
  intro c hc
  unfold Unindent.commonIndentation at hc
  cases hf : Unindent.foldCommon none (Unindent.splitLines text []) with
  | none => rw [hf] at hc; cases hc
  | some r =>
    -- the fold started from nothing, so a non-blank line set it, and `r` is below that line's indentation
    obtain ⟨_, h2, h3⟩ := Unindent.foldCommon_some hf
    obtain ⟨l, hl, hnb⟩ := h3 rfl
    rw [hf] at hc
    simpa [Unindent.isIndentChar] using List.all_eq_true.mp List.all_takeWhile c ((h2 l hl hnb).subset hc)

theorem startsWith_iff {p t : List Char} : Body.startsWith p t = true ↔ ∃ r, t = p ++ r := by
  rw [Body.startsWith, List.isPrefixOf_iff_prefix]
  exact ⟨fun ⟨r, h⟩ => ⟨r, h.symm⟩, fun ⟨r, h⟩ => ⟨r, h.symm⟩⟩

/-- a sigil is no brace: `unescape` leaves it alone -/
theorem unescape_sigil {a : Char} (ha : a = '@' ∨ a = '-') (r : List Char) :
    Body.unescape (a :: r) = a :: Body.unescape r := by
  rcases ha with rfl | rfl <;> (rw [Body.unescape]; intro r e; cases e)

/-- `run_linewise` (`&command[sigils..]`): the characters stripped are exactly the `@` / `-` the line
starts with — one byte each, present in the evaluated text — for every first line of a group. -/
theorem sigil_slice_valid (l : Body.Line) :
    (l.isQuiet = true ∧ l.isInfallible = false → ∃ r, Body.evalLine l false = '@' :: r)
    ∧ (l.isQuiet = false ∧ l.isInfallible = true → ∃ r, Body.evalLine l false = '-' :: r)
    ∧ (l.isQuiet = true ∧ l.isInfallible = true → ∃ a b r, Body.evalLine l false = a :: b :: r
        ∧ (a = '@' ∨ a = '-') ∧ (b = '@' ∨ b = '-')) := by
  unfold Body.Line.isQuiet Body.Line.isInfallible Body.Line.first Body.evalLine
  cases hf : l.frags with
  | nil => exact ⟨fun h => Bool.noConfusion h.1, fun h => Bool.noConfusion h.2, fun h => Bool.noConfusion h.1⟩
  | cons f fs =>
    cases f with
    | interp v => exact ⟨fun h => Bool.noConfusion h.1, fun h => Bool.noConfusion h.2, fun h => Bool.noConfusion h.1⟩
    | text t =>
      -- the line begins with `@`, `-@`, `-` or `@-`, as the two tests say
      simp only [Bool.false_eq_true, if_false, Bool.or_eq_true, ← Bool.not_eq_true, startsWith_iff, List.cons_append,
        List.nil_append]
      refine ⟨?_, ?_, ?_⟩
      · rintro ⟨⟨r, rfl⟩ | ⟨r, rfl⟩, hi⟩
        · exact ⟨_, by rw [unescape_sigil (.inl rfl)]; rfl⟩
        · exact absurd (.inl ⟨_, rfl⟩) hi
      · rintro ⟨hq, ⟨r, rfl⟩ | ⟨r, rfl⟩⟩
        · exact ⟨_, by rw [unescape_sigil (.inr rfl)]; rfl⟩
        · exact absurd (.inl ⟨_, rfl⟩) hq
      · rintro ⟨⟨r, rfl⟩ | ⟨r, rfl⟩, hi⟩
        · rcases hi with ⟨r', h⟩ | ⟨r', h⟩
          · cases h
          · obtain rfl : r = '-' :: r' := by simpa using h
            exact ⟨'@', '-', _, by rw [unescape_sigil (.inl rfl), unescape_sigil (.inr rfl)]; rfl, .inl rfl, .inr rfl⟩
        · exact ⟨'-', '@', _, by rw [unescape_sigil (.inr rfl), unescape_sigil (.inl rfl)]; rfl, .inr rfl, .inl rfl⟩

/-- `cook_string` (`u32::from_str_radix(hex, 16).unwrap()` in a `\\u{…}` escape): the unwrap cannot fail,
whatever the string - the scan only ever collects hexadecimal digits, and rejects an empty escape first. -/
theorem cook_unwrap_safe (text : List Char) : Cook.cook text ≠ .error .unwrapFailed :=
  Cook.cookLoop_no_unwrap .initial text [] trivial

theorem cook_literal_unwrap_safe (indented escapes : Bool) (raw : List Char) :
    Cook.cookLiteral indented escapes raw ≠ .error .unwrapFailed := by
  unfold Cook.cookLiteral
  simp only
  split
  · exact cook_unwrap_safe _
  · intro h; cases h

/-! ### the parser cannot hang -/

/-- **Every turn of the `loop` of `parse_ast` that goes on has consumed at least one token** - whatever the tokens,
the items read so far and the state of `eol_since_last_comment`.  (Lemmas/ParserCalls.lean: every parsing function of the
model returns strictly fewer tokens than it was given, the optional and repeated parts not more - the expression parser by
induction on the derivations of its grammar, `Parses.lt`.) -/
theorem parser_loop_progress (litLe : String → String → Bool) (fuel : Nat) (acc acc' : List Ast.Item) (eol eol' : Bool)
    (ts rest : List Syntax.Tk) (h : Ast.step litLe fuel acc eol ts = some (.more acc' eol' rest)) : rest.length < ts.length :=
  (Ast.step_good h).1

/-- … hence the loop takes at most as many turns as there are tokens: more loop fuel changes nothing. -/
theorem parser_loop_bounded (litLe : String → String → Bool) (fuel f k : Nat) (acc : List Ast.Item) (eol : Bool) (ts : List Syntax.Tk)
    (h : ts.length < f) : Ast.parseItems litLe fuel (f + k) acc eol ts = Ast.parseItems litLe fuel f acc eol ts :=
  Ast.parseItems_congr (fun _ _ _ _ => rfl) _ _ acc eol ts (Nat.le_refl _) (by omega) h

/-- **The parser needs no fuel.**  The model's parsing functions recurse on a fuel argument; with `8 * tokens + 12`
`parse_ast` returns exactly what it returns with any larger amount, for every token list.  So the fuel is an artefact of
the model, every recursion and loop of the parser it stands for ends by itself after a number of calls linear in the
number of tokens, and a `none` is a syntax error, never exhaustion.  (Lemmas/Grammar.lean: the expression parser finds
every derivation of its grammar from `8 * tokens + 6` on, `parse_stable`; Lemmas/ParserCalls.lean: what a call of one of the
other functions returns, it returns with every fuel under which the expression parser returns the same and no loop counter
runs out, `Agree` of Lemmas/ParserFuel.lean.) -/
theorem parser_needs_no_fuel (litLe : String → String → Bool) (ts : List Syntax.Tk) (fuel : Nat) (h : 8 * ts.length + 12 ≤ fuel) :
    Ast.parseAst litLe fuel ts = Ast.parseAst litLe (8 * ts.length + 12) ts := by
  obtain ⟨k, rfl⟩ : ∃ k, fuel = (8 * ts.length + 12) + k := ⟨fuel - (8 * ts.length + 12), by omega⟩
  exact Ast.parseAst_agree litLe ts (Syntax.agree_add k (by omega))

theorem expression_parser_needs_no_fuel (ts : List Syntax.Tk) (fuel : Nat) (h : 8 * ts.length + 4 ≤ fuel) :
    Syntax.parseExpression fuel ts = Syntax.parseExpression (8 * ts.length + 4) ts := by
  obtain ⟨k, rfl⟩ : ∃ k, fuel = (8 * ts.length + 4) + k := ⟨fuel - (8 * ts.length + 4), by omega⟩
  exact (Syntax.parserStable _).expression ts k (Nat.le_refl _)

end Just.C11
