/-
C16 — justfile discovery picks the nearest justfile; fallback climbs as documented.
-/
import Just.Lemmas.SearchSame
import Just.Lemmas.First
namespace Just.Props.C16
open Just.Search

def candidates (d : Level) : List String := d.entries.filter isCandidate

/-- **nearest wins**: if the search settles on directory `l`, every nearer directory has no
candidate and `l` has exactly that one — for ancestor chains of any depth -/
theorem nearest_wins (ds : List Level) (i l : Nat) (n : String) (h : search ds i = .at l n) :
    i ≤ l ∧ (∀ j, j < l - i → ∀ d, ds[j]? = some d → candidates d = []) ∧
      (∃ d, ds[l - i]? = some d ∧ candidates d = [n]) := by
  fun_induction search ds i
  case case1 => cases h
  case case2 hc ih => exact FirstAt.next (skip := fun d => candidates d = []) hc (ih h)
  case case3 hc => cases h; exact FirstAt.here (hit := fun d => candidates d = [_]) hc
  case case4 => cases h

/-- **more than one candidate in the nearest directory that has any is an error** -/
theorem ambiguous_is_error (ds : List Level) (i l : Nat) (h : search ds i = .multiple l) :
    i ≤ l ∧ (∀ j, j < l - i → ∀ d, ds[j]? = some d → candidates d = []) ∧
      (∃ d, ds[l - i]? = some d ∧ 2 ≤ (candidates d).length) := by
  fun_induction search ds i
  case case1 => cases h
  case case2 hc ih => exact FirstAt.next (skip := fun d => candidates d = []) hc (ih h)
  case case3 => cases h
  case case4 d _ _ h0 h1 =>
    cases h
    refine FirstAt.here (hit := fun d => 2 ≤ (candidates d).length) ?_
    match hc : candidates d, h0, h1 with
    | [], h0, _ => exact absurd hc h0
    | [x], _, h1 => exact absurd hc (h1 x)
    | _ :: _ :: _, _, _ => simp

/-- **no candidate in any ancestor is an error**, and only then -/
theorem none_is_error (ds : List Level) (i : Nat) :
    search ds i = .notFound ↔ ∀ d ∈ ds, candidates d = [] := by
  induction ds generalizing i with
  | nil => simp [search]
  | cons d ds ih =>
    rw [search, List.forall_mem_cons, ← ih (i + 1), candidates]
    split
    · simp [*]
    · simp [*]
    · exact iff_of_false nofun fun h => ‹_ = [] → False› h.1

/-- letter case does not matter, the leading dot variant counts -/
example : isCandidate "JUSTFILE" = true ∧ isCandidate ".Justfile" = true ∧ isCandidate "justfile.bak" = false := by
  repeat rw [isCandidate_ofList]
  repeat rw [String.toList_ofList]
  decide +kernel

theorem climb_outcomes (searching : Bool) : ∀ (fuel : Nat) (ds : List Level) (level : Nat) (name : String),
    ds ≠ [] → (∃ l n, climb searching fuel ds level name = .ran l n ∧ level ≤ l) ∨
      (∃ l, climb searching fuel ds level name = .unknownRecipe l ∧ level ≤ l) ∨
      climb searching fuel ds level name = .fuel ∨ climb searching fuel ds level name = .notFound := by
  intro fuel ds level name hne
  -- `.fuel` and `.notFound` are among the alternatives, so an empty chain needs no separate case
  clear hne
  fun_induction climb searching fuel ds level name with
  | case1 => exact .inr (.inr (.inl rfl))
  | case2 => exact .inr (.inr (.inr rfl))
  | case3 => exact .inl ⟨_, _, rfl, Nat.le_refl _⟩
  | case4 fuel d above level name hk hf l n hs ih =>
    -- the justfile found next lies above
    have hl := (nearest_wins above (level + 1) l n hs).1
    rcases ih with ⟨l', n', h1, h2⟩ | ⟨l', h1, h2⟩ | h | h
    · exact .inl ⟨l', n', h1, by omega⟩
    · exact .inr (.inl ⟨l', h1, by omega⟩)
    · exact .inr (.inr (.inl h))
    · exact .inr (.inr (.inr h))
  | case5 | case6 => exact .inr (.inl ⟨_, rfl, Nat.le_refl _⟩)

/-- **the first level decides when it knows the recipe or has no fallback** -/
theorem no_fallback_stops (searching : Bool) (fuel : Nat) (d : Level) (above : List Level) (level : Nat)
    (name : String) (hk : d.knows = false) (hf : d.fallback = false) :
    climb searching (fuel + 1) (d :: above) level name = .unknownRecipe level := by
  simp [climb, hk, hf]

theorem known_runs_here (searching : Bool) (fuel : Nat) (d : Level) (above : List Level) (level : Nat)
    (name : String) (hk : d.knows = true) :
    climb searching (fuel + 1) (d :: above) level name = .ran level name := by
  simp [climb, hk]

/-- **fallback climbs exactly one justfile at a time**: with `set fallback` and an unknown recipe
the outcome is that of the next justfile found above, or this level's error if there is none -/
theorem fallback_step (fuel : Nat) (d : Level) (above : List Level) (level : Nat) (name : String)
    (hk : d.knows = false) (hf : d.fallback = true) :
    climb true (fuel + 1) (d :: above) level name =
      match search above (level + 1) with
      | .at l n => climb true fuel (above.drop (l - (level + 1))) l n
      | _ => .unknownRecipe level := by
  simp only [climb, hk, hf, Bool.false_eq_true, if_false, Bool.and_self, if_true]
  cases search above (level + 1) <;> rfl

/-- **explicit `--justfile` disables both search and fallback** -/
theorem explicit_justfile_disables_both (d : Level) :
    runExplicit d = if d.knows then .ran 0 "explicit" else .unknownRecipe 0 := by
  unfold runExplicit
  cases hk : d.knows <;> simp [climb, hk]

/-- non-vacuity: two levels of fallback reach the grandparent -/
example :
    run [⟨["justfile"], false, true⟩, ⟨["src"], false, false⟩, ⟨[".justfile", "x"], false, true⟩,
         ⟨["Justfile"], true, false⟩] = .ran 3 "Justfile" := by
  decide +kernel

/-- **the candidate names are the documented ones**: `JUSTFILE_NAMES`, read from src/search.rs on
every run, is `justfile` and `.justfile` and nothing else; a file is a candidate exactly when its
name is one of the two in some letter case -/
theorem candidate_names_are_documented :
    Generated.justfileNames = ["justfile", ".justfile"] ∧
    isCandidate "jUSTfile" = true ∧ isCandidate ".JustFile" = true ∧
    isCandidate "justfile.just" = false ∧ isCandidate "Justfile " = false := by
  refine ⟨rfl, ?_⟩
  repeat rw [isCandidate_ofList]
  repeat rw [String.toList_ofList]
  decide +kernel

/-- **only candidate names matter to discovery and fallback**: directories that differ in other entries (`.git`, `Cargo.toml`,
sub-directories, anything that is not named like a justfile) give the same outcome -/
theorem run_same (ds es : List Level) (h : sameCand ds es) : run ds = run es := by
  unfold run
  rw [search_same ds es 0 h, sameCand_length ds es h]
  split
  · rfl
  · rfl
  · rename_i l n _
    exact climb_same true _ _ _ l n (sameCand_drop l ds es h)

def withExtras (extra : List String) (ds : List Level) : List Level :=
  ds.map (fun d => { d with entries := d.entries ++ extra })

theorem sameCand_withExtras (extra : List String) (h : ∀ e ∈ extra, isCandidate e = false) :
    ∀ ds : List Level, sameCand (withExtras extra ds) ds
  | [] => by simp [withExtras, sameCand]
  | d :: ds => by
    have hf : extra.filter isCandidate = [] := List.filter_eq_nil_iff.mpr (by intro e he; simp [h e he])
    refine ⟨⟨?_, rfl, rfl⟩, sameCand_withExtras extra h ds⟩
    simp [List.filter_append, hf]

theorem markers_change_nothing (ds : List Level) :
    run (withExtras [".git", ".hg", ".svn", "_darcs", ".bzr", "Cargo.toml", "package.json"] ds) = run ds := by
  refine run_same _ _ (sameCand_withExtras _ ?_ ds)
  simp only [List.forall_mem_cons, List.not_mem_nil, false_imp_iff, implies_true, and_true]
  repeat rw [isCandidate_ofList]
  repeat rw [String.toList_ofList]
  decide +kernel

end Just.Props.C16
