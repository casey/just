/-
C01 — dependencies run first; each recipe invocation runs once, in order.

All theorems are about `Just.Run.runRecipe` / `runDeps` / `runInvs` (model of
`Justfile::run_recipe` and the `Ran` memo), for every program, configuration, child-process
behaviour, memo state and fuel.  They are proved by induction on the big-step specification
`Runs`, which the executable model refines (`runRecipe_sound`).
-/
import Just.Lemmas.RunSpec
namespace Just.Props.C01
open Just.Run

def topKeys : List Ev → List Key
  | [] => []
  | .body ri a false :: es => (ri, a) :: topKeys es
  | _ :: es => topKeys es

def bodyRecipes : List Ev → List Nat
  | [] => []
  | .body ri _ _ :: es => ri :: bodyRecipes es
  | _ :: es => bodyRecipes es

@[simp] theorem topKeys_append (a b : List Ev) : topKeys (a ++ b) = topKeys a ++ topKeys b := by
  fun_induction topKeys a <;> grind [topKeys]

theorem mem_topKeys {es : List Ev} {key : Key} : key ∈ topKeys es ↔ Ev.body key.1 key.2 false ∈ es := by
  fun_induction topKeys es <;> grind

theorem mem_bodyRecipes {es : List Ev} {rj : Nat} : rj ∈ bodyRecipes es ↔ ∃ a s, Ev.body rj a s ∈ es := by
  fun_induction bodyRecipes es <;> grind

theorem topKeys_sub_bodyRecipes {es : List Ev} {key : Key} (h : key ∈ topKeys es) :
    key.1 ∈ bodyRecipes es :=
  mem_bodyRecipes.mpr ⟨_, _, mem_topKeys.mp h⟩

theorem topKeys_eq_nil {es : List Ev} (h : ∀ ri a, Ev.body ri a false ∉ es) : topKeys es = [] :=
  List.eq_nil_iff_forall_not_mem.mpr fun _ hk => h _ _ (mem_topKeys.mp hk)

theorem topKeys_leaf {es : List Ev} (h : Leaf es) : topKeys es = [] :=
  topKeys_eq_nil fun _ _ hm => nomatch h _ hm

theorem topKeys_leafRun {cfg : Cfg} {env : Env} {α : Type} {x : Res α} {es : List Ev} {res : Except Err α}
    (h : x = (es, res)) (hx : LeafRun cfg env x) : topKeys es = [] :=
  topKeys_leaf (leafRun_of_eq h hx).leaf

@[simp] theorem topKeys_prompt (cfg : Cfg) (r : Recipe) (ri : Nat) : topKeys (promptOf cfg r ri) = [] := by
  unfold promptOf; split <;> rfl

/-- The resolver accepts only acyclic dependency graphs: some rank strictly decreases along every
prior and subsequent edge (C03's `recipes_accept_sound` provides it for accepted programs). -/
def Acyclic (P : Prog) (rank : Nat → Nat) : Prop :=
  ∀ ri r, P.recipes[ri]? = some r → ∀ d, d ∈ r.priors ∨ d ∈ r.subs → rank d.target < rank ri

inductive Reach (P : Prog) : Nat → Nat → Prop where
  | refl (ri : Nat) : Reach P ri ri
  | step {ri rj : Nat} {r : Recipe} {d : Dep} : P.recipes[ri]? = some r →
      (d ∈ r.priors ∨ d ∈ r.subs) → Reach P d.target rj → Reach P ri rj

theorem Reach.rank_le {P : Prog} {rank : Nat → Nat} (hac : Acyclic P rank) {ri rj : Nat} (h : Reach P ri rj) :
    rank rj ≤ rank ri := by
  induction h with
  | refl => exact Nat.le_refl _
  | step hr hd _ ih => exact Nat.le_trans ih (Nat.le_of_lt (hac _ _ hr _ hd))

/-! ### which bodies a call starts -/

def roots : Call → List Nat
  | .recipe _ _ ri _ _ _ => [ri]
  | .deps _ _ ds _ _ _ => ds.map (·.target)

def isSub : Call → Bool
  | .recipe _ sub _ _ _ _ => sub
  | .deps _ sub _ _ _ _ => sub

theorem body_events {P : Prog} {cfg : Cfg} {env : Env} {c : Call} {es : List Ev} {res : Except Err Ran}
    (h : Runs P cfg env c es res) {rj : Nat} {a : Args} {s : Bool} (hev : Ev.body rj a s ∈ es) :
    (∃ root ∈ roots c, Reach P root rj) ∧ (isSub c = true → s = true) := by
  refine Runs.forall_events (p := fun c ev => ∀ rj a s, ev = Ev.body rj a s →
    (∃ root ∈ roots c, Reach P root rj) ∧ (isSub c = true → s = true)) ?_ ?_ ?_ ?_ h _ hev rj a s rfl
  · rintro _ _ hl _ _ _ _ rfl; cases hl
  · rintro _ _ _ _ _ _ _ _ _ h; cases h
  · rintro _ _ ri _ _ _ _ _ _ h; cases h; exact ⟨⟨ri, List.mem_singleton.mpr rfl, .refl _⟩, id⟩
  · intro c c' ev hc ih rj a s hev
    obtain ⟨⟨root, hroot, hreach⟩, hs⟩ := ih rj a s hev
    cases hc with
    | priors _ _ hr =>
      obtain ⟨d, hd, rfl⟩ := List.mem_map.mp hroot
      exact ⟨⟨_, List.mem_singleton.mpr rfl, .step hr (.inl hd) hreach⟩, hs⟩
    | subs _ _ hr =>
      obtain ⟨d, hd, rfl⟩ := List.mem_map.mp hroot
      exact ⟨⟨_, List.mem_singleton.mpr rfl, .step hr (.inr hd) hreach⟩, fun _ => hs rfl⟩
    | head _ => exact ⟨⟨_, by rw [List.mem_singleton.mp hroot]; exact List.mem_cons_self .., hreach⟩, hs⟩
    | tail _ _ => exact ⟨⟨root, List.mem_cons_of_mem _ hroot, hreach⟩, hs⟩

/-- **nothing runs that was neither requested nor reachable through dependencies** -/
theorem only_reachable (P : Prog) (cfg : Cfg) (env : Env) (fuel : Nat) (sub : Bool) (ri : Nat)
    (given : Args) (ran : Ran) (k : Nat) :
    ∀ rj ∈ bodyRecipes (runRecipe P cfg env fuel sub ri given ran k).1, Reach P ri rj := by
  intro rj hrj
  obtain ⟨a, s, hev⟩ := mem_bodyRecipes.mp hrj
  obtain ⟨⟨root, hroot, hreach⟩, _⟩ := body_events (runRecipe_sound P cfg env fuel sub ri given ran k _ _ rfl) hev
  rwa [List.mem_singleton.mp hroot] at hreach

/-! ### rank bound on everything that runs -/

def RankB (rank : Nat → Nat) : Call → List Ev → Prop
  | .recipe _ _ ri _ _ _, es => ∀ rj ∈ bodyRecipes es, rank rj ≤ rank ri
  | .deps _ _ ds _ _ _, es => ∀ rj ∈ bodyRecipes es, ∃ d ∈ ds, rank rj ≤ rank d.target

theorem rank_bound {P : Prog} {cfg : Cfg} {env : Env} {rank : Nat → Nat} (hac : Acyclic P rank)
    {c : Call} {es : List Ev} {res : Except Err Ran} (h : Runs P cfg env c es res) :
    RankB rank c es := by
  have : ∀ rj ∈ bodyRecipes es, ∃ root ∈ roots c, rank rj ≤ rank root := fun rj hrj =>
    have ⟨_, _, hev⟩ := mem_bodyRecipes.mp hrj
    have ⟨⟨root, hroot, hreach⟩, _⟩ := body_events h hev
    ⟨root, hroot, hreach.rank_le hac⟩
  cases c with
  | recipe => intro rj hrj; obtain ⟨_, hroot, hle⟩ := this rj hrj; rwa [List.mem_singleton.mp hroot] at hle
  | deps =>
    intro rj hrj
    obtain ⟨_, hroot, hle⟩ := this rj hrj
    obtain ⟨d, hd, rfl⟩ := List.mem_map.mp hroot
    exact ⟨d, hd, hle⟩

/-! ### run once -/

def TopGood (ran : Ran) (es : List Ev) (res : Except Err Ran) : Prop :=
  (topKeys es).Nodup ∧ (∀ key ∈ topKeys es, key ∉ ran) ∧
    (∀ ran', res = .ok ran' → ∀ key, key ∈ ran' ↔ key ∈ ran ∨ key ∈ topKeys es)

theorem TopGood.congr {ran : Ran} {es es' : List Ev} {res : Except Err Ran} (h : topKeys es' = topKeys es)
    (hg : TopGood ran es res) : TopGood ran es' res := by
  unfold TopGood; rw [h]; exact hg

theorem TopGood.nil_ok (ran : Ran) : TopGood ran [] (.ok ran) :=
  ⟨List.nodup_nil, fun _ h => (nomatch h), fun _ h key => by cases h; simp [topKeys]⟩

theorem TopGood.toError {ran : Ran} {es : List Ev} {res : Except Err Ran} (e : Err) (h : TopGood ran es res) :
    TopGood ran es (.error e) :=
  ⟨h.1, h.2.1, fun _ h => (nomatch h)⟩

theorem TopGood.nil_err (ran : Ran) (e : Err) : TopGood ran [] (.error e) :=
  (TopGood.nil_ok ran).toError e

theorem TopGood.of_topKeys_nil {ran : Ran} {es : List Ev} {e : Err} (h : topKeys es = []) :
    TopGood ran es (.error e) :=
  (TopGood.nil_err ran e).congr (es := []) h

theorem TopGood.append {ran ran1 : Ran} {a b : List Ev} {res : Except Err Ran} (ha : TopGood ran a (.ok ran1))
    (hb : TopGood ran1 b res) : TopGood ran (a ++ b) res := by
  obtain ⟨hn2, hd2, hm2⟩ := ha
  obtain ⟨hn3, hd3, hm3⟩ := hb
  have hm2 := hm2 ran1 rfl
  rw [TopGood, topKeys_append]
  refine ⟨List.nodup_append.mpr ⟨hn2, hn3, ?_⟩, ?_, ?_⟩
  · rintro a ha b hb rfl
    exact hd3 a hb ((hm2 a).mpr (.inr ha))
  · intro key hk hr
    rcases List.mem_append.mp hk with hk | hk
    · exact hd2 key hk hr
    · exact hd3 key hk ((hm2 key).mpr (.inl hr))
  · intro ran' h key
    rw [hm3 ran' h key, hm2 key, List.mem_append, or_assoc]

theorem TopGood.body {ran : Ran} {key : Key} (h : key ∉ ran) :
    TopGood ran [Ev.body key.1 key.2 false] (.ok (key :: ran)) :=
  ⟨by simp [topKeys], by simpa [topKeys] using h, fun _ h k => by
    cases h; simp only [topKeys, List.mem_cons, List.not_mem_nil, or_false]; exact or_comm⟩

theorem topKeys_sub {P : Prog} {cfg : Cfg} {env : Env} {c : Call} {es : List Ev} {res : Except Err Ran}
    (h : Runs P cfg env c es res) (hs : isSub c = true) : topKeys es = [] :=
  topKeys_eq_nil fun _ _ hev => nomatch (body_events h hev).2 hs

def memoOf : Call → Ran
  | .recipe _ _ _ _ ran _ => ran
  | .deps _ _ _ _ ran _ => ran

theorem once_all {P : Prog} {cfg : Cfg} {env : Env} {rank : Nat → Nat} (hac : Acyclic P rank)
    {c : Call} {es : List Ev} {res : Except Err Ran} (h : Runs P cfg env c es res) (hs : isSub c = false) :
    TopGood (memoOf c) es res := by
  -- acyclicity: the priors run recipes of lower rank only, so they leave the invocation itself unrecorded
  have fresh : ∀ {fuel ri given ran k r ps e2 ran1}, (ri, given) ∉ ran → P.recipes[ri]? = some r →
      Runs P cfg env (.deps fuel false r.priors ps ran k) e2 (.ok ran1) → TopGood ran e2 (.ok ran1) →
      (ri, given) ∉ ran1 := by
    intro fuel ri given ran k r ps e2 ran1 hm hr hpri ih hin
    rcases (ih.2.2 ran1 rfl _).mp hin with h | h
    · exact hm h
    · obtain ⟨d, hd, hle⟩ := rank_bound hac hpri ri (topKeys_sub_bodyRecipes h)
      exact absurd (hac ri r hr d (.inl hd)) (by omega)
  induction h with
  | memo _ | depsNil | depsSkip _ => exact .nil_ok _
  | outOfFuel | noRecipe _ _ => exact .nil_err _ _
  | notConfirmed _ _ _ _ => exact .of_topKeys_nil rfl
  | bindFail _ _ _ hb => exact .of_topKeys_nil (by simp [topKeys_leafRun hb (bindParams_leafRun ..)])
  | depsEvalFail _ he => exact .of_topKeys_nil (topKeys_leafRun he (evalList_leafRun ..))
  | priorsFail _ _ _ hb _ ih =>
    exact ((ih hs).toError _).congr (by simp [topKeys_leafRun hb (bindParams_leafRun ..)])
  | bodyFail hm hr _ hb hpri hbody ih =>
    cases hs
    exact (((ih rfl).append (.body (fresh hm hr hpri (ih rfl)))).toError _).congr (by
      simp [topKeys, topKeys_leafRun hb (bindParams_leafRun ..), topKeys_leafRun hbody (runBody_leafRun ..)])
  | subsFail hm hr _ hb hpri hbody hsub ih _ =>
    cases hs
    exact (((ih rfl).append (.body (fresh hm hr hpri (ih rfl)))).toError _).congr (by
      simp [topKeys, topKeys_leafRun hb (bindParams_leafRun ..), topKeys_leafRun hbody (runBody_leafRun ..),
        topKeys_sub hsub rfl])
  | done hm hr _ hb hpri hbody hsub ih _ =>
    cases hs
    exact ((ih rfl).append (.body (fresh hm hr hpri (ih rfl)))).congr (by
      simp [topKeys, topKeys_leafRun hb (bindParams_leafRun ..), topKeys_leafRun hbody (runBody_leafRun ..),
        topKeys_sub hsub rfl])
  | depsRecFail _ he _ ih =>
    exact (ih hs).congr (by simp [topKeys_leafRun he (evalList_leafRun ..)])
  | depsCons _ he _ _ ih2 ih3 =>
    exact ((ih2 hs).append (ih3 hs)).congr (by simp [topKeys_leafRun he (evalList_leafRun ..)])

/-- **run once**: for every accepted (acyclic) program, every invocation made the way `runInvs`
makes it (not below a subsequent), every fault behaviour: among command-line and prior-dependency
invocations each (recipe, arguments) pair starts its body at most once, none that the memo already
holds runs again, and on success the memo has grown by exactly those pairs. -/
theorem run_once (P : Prog) (cfg : Cfg) (env : Env) (rank : Nat → Nat) (hac : Acyclic P rank)
    (fuel ri : Nat) (given : Args) (ran : Ran) (k : Nat) :
    TopGood ran (runRecipe P cfg env fuel false ri given ran k).1
      (runRecipe P cfg env fuel false ri given ran k).2 :=
  once_all hac (runRecipe_sound P cfg env fuel false ri given ran k _ _ rfl) rfl

theorem run_once_cmdline (P : Prog) (cfg : Cfg) (env : Env) (rank : Nat → Nat) (hac : Acyclic P rank)
    (fuel : Nat) : ∀ (invs : List Key) (ran : Ran) (k : Nat),
    TopGood ran (runInvs P cfg env fuel invs ran k).1 (runInvs P cfg env fuel invs ran k).2 := by
  intro invs
  induction invs with
  | nil => intro ran k; exact .nil_ok ran
  | cons inv invs ih =>
    intro ran k
    have h1 := run_once P cfg env rank hac fuel inv.1 inv.2 ran k
    rw [runInvs_cons]
    rcases hx : runRecipe P cfg env fuel false inv.1 inv.2 ran k with ⟨e1, e | ran1⟩ <;> rw [hx] at h1
    · exact h1.toError e
    · exact h1.append (ih ..)

theorem started {P : Prog} {cfg : Cfg} {env : Env} {fuel : Nat} {sub : Bool} {ri : Nat} {given : Args}
    {ran ran' : Ran} {k : Nat} {es : List Ev} (h : runRecipe P cfg env fuel sub ri given ran k = (es, .ok ran')) :
    (ri, given) ∈ ran ∨ Ev.body ri given sub ∈ es := by
  cases runRecipe_sound P cfg env fuel sub ri given ran k es _ h with
  | memo hm => exact .inl hm
  | done => exact .inr (by simp)

/-- **a different argument list runs again** (and a requested invocation does run): after a
successful invocation of `ri` with `given`, either the memo already held it or its body started
in this very run — whatever other argument lists of `ri` the memo holds. -/
theorem requested_runs (P : Prog) (cfg : Cfg) (env : Env) (rank : Nat → Nat) (hac : Acyclic P rank)
    (fuel ri : Nat) (given : Args) (ran ran' : Ran) (k : Nat) (es : List Ev)
    (h : runRecipe P cfg env fuel false ri given ran k = (es, .ok ran')) (hnew : (ri, given) ∉ ran) :
    (ri, given) ∈ topKeys es :=
  mem_topKeys.mpr ((started h).resolve_left hnew)

/-! ### priors before the body, subsequents right after it -/

theorem memo_from {P : Prog} {cfg : Cfg} {env : Env} {c : Call} {es : List Ev} {res : Except Err Ran}
    (h : Runs P cfg env c es res) :
    ∀ ran', res = .ok ran' → ∀ key ∈ ran', key ∈ memoOf c ∨ Ev.body key.1 key.2 (isSub c) ∈ es := by
  induction h with
  | memo _ | depsNil | depsSkip _ => intro _ h; cases h; exact fun _ hk => .inl hk
  | done _ _ _ _ _ _ _ ih2 _ =>
    intro _ h key hk
    cases h
    simp only [isSub, memoOf] at ih2 ⊢
    rcases List.mem_cons.mp hk with rfl | hk
    · exact .inr (by simp)
    · exact (ih2 _ rfl key hk).imp_right fun h => by simp [h]
  | depsCons _ _ _ _ ih2 ih3 =>
    intro ran' h key hk
    simp only [isSub, memoOf] at ih2 ih3 ⊢
    rcases ih3 ran' h key hk with h3 | h3
    · exact (ih2 _ rfl key h3).imp_right fun h => by simp [h]
    · exact .inr (by simp [h3])
  | _ => intro _ h; cases h

theorem deps_started {P : Prog} {cfg : Cfg} {env : Env} {fuel : Nat} {sub : Bool} {ds : List Dep} {ps : Args}
    {ran ran' : Ran} {k : Nat} {es : List Ev} (h : runDeps P cfg env fuel sub ds ps ran k = (es, .ok ran'))
    (hnd : cfg.noDeps = false) : ∀ d ∈ ds, ∃ ed args, evalList cfg env ps d.args = (ed, .ok args) ∧
      ((d.target, args) ∈ ran ∨ Ev.body d.target args sub ∈ es) := by
  induction ds generalizing ran k es with
  | nil => nofun
  | cons d ds ih =>
    rw [runDeps_cons, hnd, if_neg Bool.false_ne_true] at h
    simp only [andThen_eq_ok] at h
    obtain ⟨e1, given, _, he, ⟨e2, ran1, e3, h2, h3, rfl⟩, rfl⟩ := h
    -- whatever the first dependency left in the memo was there before or started inside its run
    have hfrom := memo_from (runRecipe_sound P cfg env fuel sub d.target given ran k e2 _ h2) _ rfl
    simp only [isSub, memoOf] at hfrom
    intro d' hd'
    rcases List.mem_cons.mp hd' with rfl | hd'
    · exact ⟨e1, given, he, (started h2).imp_right fun h => by simp [h]⟩
    · obtain ⟨ed, args, hed, hin | hin⟩ := ih h3 d' hd'
      · exact ⟨ed, args, hed, (hfrom _ hin).imp_right fun h => by simp [h]⟩
      · exact ⟨ed, args, hed, .inr (by simp [hin])⟩

/-- **priors first, subsequents right after**: a successful invocation that was not memoised has
the trace  `prompt? ++ parameter-backticks ++ PRIORS ++ [body label] ++ BODY ++ SUBSEQUENTS`
where PRIORS is the run of the prior dependencies in declared order sharing the caller's memo,
SUBSEQUENTS is the run of the `&&` dependencies in declared order starting from an *empty* memo,
and every prior dependency call `(target, evaluated arguments)` either was already in the memo or
started its body inside PRIORS, i.e. strictly before the body label. -/
theorem priors_first_subsequents_after {P : Prog} {cfg : Cfg} {env : Env} {fuel : Nat} {sub : Bool}
    {ri : Nat} {given : Args} {ran ran' : Ran} {k : Nat} {es : List Ev}
    (h : runRecipe P cfg env fuel sub ri given ran k = (es, .ok ran')) (hnew : (ri, given) ∉ ran)
    (hnd : cfg.noDeps = false) :
    ∃ n r e1 ps pri bodyEvs subsEvs ran1 ranS,
      fuel = n + 1 ∧ P.recipes[ri]? = some r ∧
      bindParams cfg env r.params given [] = (e1, .ok ps) ∧
      es = (promptOf cfg r ri ++ e1 ++ pri) ++ Ev.body ri given sub :: (bodyEvs ++ subsEvs) ∧
      runDeps P cfg env n sub r.priors ps ran (k + countPrompts (promptOf cfg r ri)) = (pri, .ok ran1) ∧
      runBody cfg env ri r given ps = (bodyEvs, .ok ()) ∧
      runDeps P cfg env n true r.subs ps []
        (k + countPrompts (promptOf cfg r ri) + countPrompts pri) = (subsEvs, .ok ranS) ∧
      (∀ d ∈ r.priors, ∃ ed args, evalList cfg env ps d.args = (ed, .ok args) ∧
        ((d.target, args) ∈ ran ∨ Ev.body d.target args sub ∈ pri)) ∧
      (∀ d ∈ r.subs, ∃ ed args, evalList cfg env ps d.args = (ed, .ok args) ∧
        Ev.body d.target args true ∈ subsEvs) := by
  cases fuel with
  | zero => rw [runRecipe_zero] at h; cases h
  | succ n =>
    rw [runRecipe_succ, if_neg hnew] at h
    split at h
    · cases h
    · rename_i r hr
      obtain ⟨e0, _, _, hc, k1, rfl⟩ := andThen_eq_ok.mp h
      obtain ⟨e1, ps, _, hb, k2, rfl⟩ := andThen_eq_ok.mp k1
      obtain ⟨e2, ran1, _, hp, k3, rfl⟩ := andThen_eq_ok.mp k2
      obtain ⟨_, _, _, hl, k4, rfl⟩ := andThen_eq_ok.mp k3
      obtain ⟨e3, _, _, hbody, k5, rfl⟩ := andThen_eq_ok.mp k4
      obtain ⟨e4, ranS, _, hs, hend, rfl⟩ := andThen_eq_ok.mp k5
      cases hl; cases hend
      obtain rfl : promptOf cfg r ri = e0 := congrArg Prod.fst hc
      refine ⟨n, r, e1, ps, e2, e3, e4, ran1, ranS, rfl, hr, hb, by simp, hp, hbody, hs,
        deps_started hp hnd, fun d hd => ?_⟩
      obtain ⟨ed, args, he, hin | hin⟩ := deps_started hs hnd d hd
      · cases hin
      · exact ⟨ed, args, he, hin⟩

/-- **command-line recipes are started left to right**, threading one memo. -/
theorem cmdline_left_to_right (P : Prog) (cfg : Cfg) (env : Env) (fuel ri : Nat) (given : Args)
    (rest : List Key) (ran : Ran) (k : Nat) :
    runInvs P cfg env fuel ((ri, given) :: rest) ran k =
      match runRecipe P cfg env fuel false ri given ran k with
      | (e1, .error e) => (e1, .error e)
      | (e1, .ok ran1) =>
        ((e1 ++ (runInvs P cfg env fuel rest ran1 (k + countPrompts e1)).1),
          (runInvs P cfg env fuel rest ran1 (k + countPrompts e1)).2) := by
  rw [runInvs_cons]
  obtain ⟨e1, _ | ran1⟩ := runRecipe P cfg env fuel false ri given ran k <;> rfl

/-- dependencies of one recipe are started in declared order -/
theorem deps_left_to_right (P : Prog) (cfg : Cfg) (env : Env) (fuel : Nat) (sub : Bool) (d : Dep)
    (ds : List Dep) (ps : Args) (ran : Ran) (k : Nat) (hnd : cfg.noDeps = false) :
    runDeps P cfg env fuel sub (d :: ds) ps ran k =
      match evalList cfg env ps d.args with
      | (e1, .error e) => (e1, .error e)
      | (e1, .ok given) =>
        match runRecipe P cfg env fuel sub d.target given ran k with
        | (e2, .error e) => (e1 ++ e2, .error e)
        | (e2, .ok ran1) =>
          (e1 ++ e2 ++ (runDeps P cfg env fuel sub ds ps ran1 (k + countPrompts e2)).1,
            (runDeps P cfg env fuel sub ds ps ran1 (k + countPrompts e2)).2) := by
  rw [runDeps_cons, hnd, if_neg Bool.false_ne_true]
  obtain ⟨e1, _ | gv⟩ := evalList cfg env ps d.args
  · rfl
  · simp only [andThen_ok]
    obtain ⟨e2, _ | ran1⟩ := runRecipe P cfg env fuel sub d.target gv ran k
    · rfl
    · simp only [andThen_ok, List.append_assoc]

/-! ### the recursion never runs out of fuel on acyclic graphs -/

def Fuelled (rank : Nat → Nat) : Call → Prop
  | .recipe fuel _ ri _ _ _ => rank ri < fuel
  | .deps fuel _ ds _ _ _ => ∀ d ∈ ds, rank d.target < fuel

theorem fuel_enough_all {P : Prog} {cfg : Cfg} {env : Env} {rank : Nat → Nat} (hac : Acyclic P rank)
    {c : Call} {es : List Ev} {e : Err} (h : Runs P cfg env c es (.error e)) (hf : Fuelled rank c) : e ≠ .fuel := by
  refine Runs.error_cases (q := fun c _ e => Fuelled rank c → e ≠ .fuel) ?_ ?_ ?_ ?_ h hf
  · intro _ _ _ _ _ h; exact absurd h (Nat.not_lt_zero _)
  · intro _ _ _ h; cases h
  · rintro _ _ _ _ (rfl | ⟨_, _, c, _, _, hs⟩) _ h
    · cases h
    · subst h; cases hc : env.status c <;> simp [hc, Status.toErr] at hs
  · intro c c' _ _ _ hc ih hf
    refine ih ?_
    cases hc with
    | priors _ _ hr => exact fun d hd => by have := hac _ _ hr d (.inl hd); have : _ < _ + 1 := hf; omega
    | subs _ _ hr => exact fun d hd => by have := hac _ _ hr d (.inr hd); have : _ < _ + 1 := hf; omega
    | head _ => exact hf _ (List.mem_cons_self ..)
    | tail _ _ => exact fun d hd => hf d (List.mem_cons_of_mem _ hd)

/-- **termination**: on an acyclic graph, fuel above the rank of the requested recipe is never
exhausted — the model's answer is a genuine outcome of the recursion, not a cut-off. -/
theorem fuel_enough (P : Prog) (cfg : Cfg) (env : Env) (rank : Nat → Nat) (hac : Acyclic P rank)
    (fuel : Nat) (sub : Bool) (ri : Nat) (given : Args) (ran : Ran) (k : Nat) (hf : rank ri < fuel) :
    (runRecipe P cfg env fuel sub ri given ran k).2 ≠ .error .fuel := fun h =>
  fuel_enough_all hac (runRecipe_sound P cfg env fuel sub ri given ran k _ _ (Prod.ext rfl h)) hf rfl

/-! ### non-vacuity -/

/-- a concrete diamond with a shared setup recipe and a subsequent is acyclic -/
example :
    let dep (t : Nat) : Dep := ⟨t, []⟩
    let mk (ps ss : List Dep) : Recipe := { params := [], priors := ps, subs := ss, body := [] }
    Acyclic ⟨[], [mk [dep 1, dep 2] [dep 3], mk [dep 3] [], mk [dep 3] [], mk [] []]⟩
      (fun i => 4 - i) := by
  intro dep mk ri r hr d hd
  match ri, hr with
  | 0, hr => simp at hr; subst hr; simp [mk, dep] at hd; rcases hd with (h | h) | h <;> subst h <;> simp
  | 1, hr => simp at hr; subst hr; simp [mk, dep] at hd; subst hd; simp
  | 2, hr => simp at hr; subst hr; simp [mk, dep] at hd; subst hd; simp
  | 3, hr => simp at hr; subst hr; simp [mk] at hd
  | n + 4, hr => simp at hr

end Just.Props.C01
