/-
C04 — expressions evaluate per the documented semantics, lazily and once.
Theorems about `Just.Eval` (model of src/evaluator.rs), then about the built-in functions it calls: `Just.Path` (`clean`,
the file-name parts, `join`, `absolute_path`), `Just.Percent`, the trim functions of `Just.Eval` and `Just.Case`.
-/
import Just.Lemmas.EvalOnce
import Just.Lemmas.Percent
import Just.Lemmas.PathText
import Just.Lemmas.PathAbs
import Just.Lemmas.Case
import Just.Lemmas.Trim
import Just.Lemmas.DropWhile
namespace Just.Props.C04
open Just.Eval

/-! ### only the taken branch is evaluated -/

/-- **conditional, condition true**: the result (value, error, every backtick in the log, every
binding) is that of the `then` branch evaluated after the two sides of the condition — the
`else` branch does not occur in it at all -/
theorem lazy_conditional_true (ctx : Ctx) (as : Option (List (String × Expr))) (fuel : Nat)
    (a b t e : Expr) (op : CondOp) (st st1 st2 : St) (va vb : String)
    (ha : evalExpr ctx as fuel a st = (st1, .ok va)) (hb : evalExpr ctx as fuel b st1 = (st2, .ok vb))
    (hc : evalCondOp op va vb = true) :
    evalExpr ctx as (fuel + 1) (.cond a op b t e) st = evalExpr ctx as fuel t st2 := by
  rw [evalExpr_operator, operate, ha, Res.bind_ok, hb, Res.bind_ok, if_pos hc]

theorem lazy_conditional_false (ctx : Ctx) (as : Option (List (String × Expr))) (fuel : Nat)
    (a b t e : Expr) (op : CondOp) (st st1 st2 : St) (va vb : String)
    (ha : evalExpr ctx as fuel a st = (st1, .ok va)) (hb : evalExpr ctx as fuel b st1 = (st2, .ok vb))
    (hc : evalCondOp op va vb = false) :
    evalExpr ctx as (fuel + 1) (.cond a op b t e) st = evalExpr ctx as fuel e st2 := by
  rw [evalExpr_operator, operate, ha, Res.bind_ok, hb, Res.bind_ok, if_neg (by rw [hc]; exact Bool.false_ne_true)]

/-- **`&&`**: an empty left side yields the empty string and the right side is not evaluated -/
theorem lazy_and (ctx : Ctx) (as : Option (List (String × Expr))) (fuel : Nat) (l r : Expr)
    (st st1 : St) (hl : evalExpr ctx as fuel l st = (st1, .ok "")) :
    evalExpr ctx as (fuel + 1) (.and l r) st = (st1, .ok "") := by
  rw [evalExpr_operator, operate, hl, Res.bind_ok, if_pos rfl]

theorem and_nonempty (ctx : Ctx) (as : Option (List (String × Expr))) (fuel : Nat) (l r : Expr)
    (st st1 : St) (v : String) (hl : evalExpr ctx as fuel l st = (st1, .ok v)) (hv : v ≠ "") :
    evalExpr ctx as (fuel + 1) (.and l r) st = evalExpr ctx as fuel r st1 := by
  rw [evalExpr_operator, operate, hl, Res.bind_ok, if_neg hv]

/-- **`||`**: a non-empty left side is the value and the right side is not evaluated -/
theorem lazy_or (ctx : Ctx) (as : Option (List (String × Expr))) (fuel : Nat) (l r : Expr)
    (st st1 : St) (v : String) (hl : evalExpr ctx as fuel l st = (st1, .ok v)) (hv : v ≠ "") :
    evalExpr ctx as (fuel + 1) (.or l r) st = (st1, .ok v) := by
  rw [evalExpr_operator, operate, hl, Res.bind_ok, if_pos hv]

theorem or_empty (ctx : Ctx) (as : Option (List (String × Expr))) (fuel : Nat) (l r : Expr)
    (st st1 : St) (hl : evalExpr ctx as fuel l st = (st1, .ok "")) :
    evalExpr ctx as (fuel + 1) (.or l r) st = evalExpr ctx as fuel r st1 := by
  rw [evalExpr_operator, operate, hl, Res.bind_ok, if_neg (fun h => h rfl)]

/-- **`assert`**: the message is evaluated only when the condition fails -/
theorem assert_message_lazy (ctx : Ctx) (as : Option (List (String × Expr))) (fuel : Nat)
    (a b m : Expr) (op : CondOp) (st st1 st2 : St) (va vb : String)
    (ha : evalExpr ctx as fuel a st = (st1, .ok va)) (hb : evalExpr ctx as fuel b st1 = (st2, .ok vb))
    (hc : evalCondOp op va vb = true) :
    evalExpr ctx as (fuel + 1) (.assert a op b m) st = (st2, .ok "") := by
  rw [evalExpr_operator, operate, ha, Res.bind_ok, hb, Res.bind_ok, if_pos hc]

/-- **dry run**: a backtick is shown unevaluated and nothing is spawned -/
theorem dry_run_backtick (ctx : Ctx) (as : Option (List (String × Expr))) (fuel : Nat) (c : String)
    (st : St) (h : ctx.dryRun = true) :
    evalExpr ctx as (fuel + 1) (.backtick c) st = (st, .ok ("`" ++ c ++ "`")) := by
  simp [evalExpr, h]

/-- operators: `+` is concatenation, `/` concatenation with a slash -/
theorem concat_value (ctx : Ctx) (as : Option (List (String × Expr))) (fuel : Nat) (l r : Expr)
    (st st1 st2 : St) (a b : String) (hl : evalExpr ctx as fuel l st = (st1, .ok a))
    (hr : evalExpr ctx as fuel r st1 = (st2, .ok b)) :
    evalExpr ctx as (fuel + 1) (.concat l r) st = (st2, .ok (a ++ b)) ∧
      evalExpr ctx as (fuel + 1) (.joinL l r) st = (st2, .ok (a ++ "/" ++ b)) := by
  rw [evalExpr_operator, evalExpr_operator, operate, operate, hl, Res.bind_ok, Res.bind_ok, hr]
  exact ⟨rfl, rfl⟩

/-! ### an overridden assignment's expression is never evaluated -/

theorem lookup_cons_ne_none (scope : List (String × String)) (m n v : String)
    (h : scope.lookup n ≠ none) : ((m, v) :: scope).lookup n ≠ none :=
  Option.isSome_iff_ne_none.mp (bound_cons ⟨scope, []⟩ m v n (Option.isSome_iff_ne_none.mpr h))

/-- two assignment tables that differ only in the expression of `n` -/
def AgreeExcept (n : String) (as as' : List (String × Expr)) : Prop :=
  ∀ x, x ≠ n → as.lookup x = as'.lookup x

theorem agree_bind {α β : Type} {n : String} {r r' : Res α} {k k' : St → α → Res β}
    (h1 : r = r' ∧ lookupScope r.1 n ≠ none)
    (h2 : ∀ st1 a, lookupScope st1 n ≠ none → k st1 a = k' st1 a ∧ lookupScope (k st1 a).1 n ≠ none) :
    r.bind k = r'.bind k' ∧ lookupScope (r.bind k).1 n ≠ none :=
  h1.1 ▸ ⟨Res.bind_congr h1.2 fun st1 a h => (h2 st1 a h).1, Res.bind_state h1.2 fun st1 a h => (h2 st1 a h).2⟩

/-- with `n` already bound in the current scope, the expression stored for `n` is irrelevant:
evaluation under the two tables coincides (value, error, log, bindings) and `n` stays bound -/
theorem override_irrelevant (ctx : Ctx) (n : String) (as as' : List (String × Expr))
    (hag : AgreeExcept n as as') : ∀ fuel,
    (∀ e st, lookupScope st n ≠ none →
      evalExpr ctx (some as) fuel e st = evalExpr ctx (some as') fuel e st ∧
      lookupScope (evalExpr ctx (some as) fuel e st).1 n ≠ none) ∧
    (∀ es st, lookupScope st n ≠ none →
      evalExprs ctx (some as) fuel es st = evalExprs ctx (some as') fuel es st ∧
      lookupScope (evalExprs ctx (some as) fuel es st).1 n ≠ none) ∧
    (∀ m e st, lookupScope st n ≠ none →
      evalAssignment ctx (some as) fuel m e st = evalAssignment ctx (some as') fuel m e st ∧
      lookupScope (evalAssignment ctx (some as) fuel m e st).1 n ≠ none) := by
  intro fuel
  induction fuel with
  | zero => exact ⟨fun _ _ h => by rw [evalExpr_zero, evalExpr_zero]; exact ⟨rfl, h⟩,
      fun _ _ h => by rw [evalExprs_zero, evalExprs_zero]; exact ⟨rfl, h⟩,
      fun _ _ _ h => by rw [evalAssignment_zero, evalAssignment_zero]; exact ⟨rfl, h⟩⟩
  | succ k ih =>
    obtain ⟨ihE, ihEs, ihA⟩ := ih
    refine ⟨fun e st hb => ?_, fun es st hb => ?_, fun m e st hb => ?_⟩
    · cases e with
      | str s => rw [evalExpr_str, evalExpr_str]; exact ⟨rfl, hb⟩
      | var x =>
        simp only [evalExpr_var, pendingOf]
        -- an unbound `x` is not `n`, so both tables hold the same expression for it
        have hx : lookupScope st x = none → as.lookup x = as'.lookup x := fun hl => hag x fun h => hb (h ▸ hl)
        constructor
        · cases hl : lookupScope st x with
          | some v => unfold varCase; rw [hl]
          | none => rw [hx hl]; exact varCase_congr ctx x st _ fun e' _ _ => (ihA x e' st hb).1
        · rcases varCase_cases ctx x st (as.lookup x) fun e => evalAssignment ctx (some as) k x e st with
            ⟨r, h⟩ | ⟨e', _, _, h⟩ <;> rw [h]
          · exact hb
          · exact (ihA x e' st hb).2
      | backtick c =>
        refine ⟨by simp only [evalExpr], ?_⟩
        rcases evalExpr_backtick_state ctx (some as) k st c with h | ⟨_, h⟩ <;> rw [h] <;> exact hb
      | call fn args =>
        simp only [evalExpr_call]
        refine agree_bind (ihEs args st hb) fun st1 vs h1 => ⟨rfl, ?_⟩
        rcases applyFn_state ctx fn st1 vs with h | ⟨_, _, h⟩ <;> rw [h] <;> exact h1
      | _ =>
        rw [evalExpr_operator, evalExpr_operator]
        exact Sequential.operate (Φ := fun st r r' => lookupScope st n ≠ none → r = r' ∧ lookupScope r.1 n ≠ none)
          ⟨fun _ _ hb => ⟨rfl, hb⟩, fun h1 h2 hb => agree_bind (h1 hb) h2⟩ _ (fun s _ => ihE s) st hb
    · cases es with
      | nil => rw [evalExprs_nil, evalExprs_nil]; exact ⟨rfl, hb⟩
      | cons e es =>
        simp only [evalExprs_cons]
        exact agree_bind (ihE e st hb) fun st1 _ h1 => agree_bind (ihEs es st1 h1) fun _ _ h2 => ⟨rfl, h2⟩
    · cases hl : lookupScope st m with
      | some v => rw [evalAssignment_of_bound _ _ _ _ _ _ _ hl, evalAssignment_of_bound _ _ _ _ _ _ _ hl]; exact ⟨rfl, hb⟩
      | none =>
        simp only [evalAssignment_of_unbound _ _ _ _ _ _ hl]
        exact agree_bind (ihE e _ hb) fun st1 v h1 => ⟨rfl, lookup_cons_ne_none _ _ _ _ h1⟩

def setExpr (as : List (String × Expr)) (n : String) (e' : Expr) : List (String × Expr) :=
  as.map (fun p => if p.1 = n then (p.1, e') else p)

theorem evalAssignment_bound (ctx : Ctx) (a1 a2 : Option (List (String × Expr))) (fuel : Nat)
    (m v : String) (e1 e2 : Expr) (st : St) (h : lookupScope st m = some v) :
    evalAssignment ctx a1 fuel m e1 st = evalAssignment ctx a2 fuel m e2 st := by
  cases fuel with
  | zero => rw [evalAssignment_zero, evalAssignment_zero]
  | succ k => rw [evalAssignment_of_bound _ _ _ _ _ _ _ h, evalAssignment_of_bound _ _ _ _ _ _ _ h]

theorem evalAll_setExpr (ctx : Ctx) (n : String) (e' : Expr) (as as' : List (String × Expr))
    (hag : AgreeExcept n as as') (fuel : Nat) (l : List (String × Expr)) (st : St) (hb : lookupScope st n ≠ none) :
    evalAll ctx as fuel l st = evalAll ctx as' fuel (setExpr l n e') st := by
  induction l generalizing st with
  | nil => rfl
  | cons p ps ih =>
    obtain ⟨x, e⟩ := p
    obtain ⟨hA1, hA2⟩ := (override_irrelevant ctx n as as' hag fuel).2.2 x e st hb
    -- the entry for `n` itself is bound already and returns at once under either expression
    have hstep : ∀ e'', (x ≠ n → e'' = e) →
        evalAssignment ctx (some as) fuel x e st = evalAssignment ctx (some as') fuel x e'' st := by
      intro e'' hne
      by_cases hx : x = n
      · obtain ⟨v, hv⟩ := Option.ne_none_iff_exists'.mp (hx ▸ hb)
        exact evalAssignment_bound ctx _ _ fuel x v e e'' st hv
      · rw [hne hx]; exact hA1
    simp only [setExpr, List.map_cons]
    split
    · rw [evalAll_cons, evalAll_cons, ← hstep e' (fun h => absurd ‹x = n› h)]
      exact Res.bind_congr hA2 fun st1 _ h1 => ih st1 h1
    · rw [evalAll_cons, evalAll_cons, ← hstep e (fun _ => rfl)]
      exact Res.bind_congr hA2 fun st1 _ h1 => ih st1 h1

theorem setExpr_lookup (as : List (String × Expr)) (n x : String) (e' : Expr) :
    (setExpr as n e').lookup x = (as.lookup x).map fun e => if x = n then e' else e := by
  induction as with
  | nil => rfl
  | cons p ps ih =>
    rw [setExpr, List.map_cons, ← setExpr, List.lookup_cons, apply_ite Prod.fst, ite_self, List.lookup_cons, ih]
    cases hx : x == p.1
    · rfl
    · cases beq_iff_eq.mp hx; rw [apply_ite Prod.snd]; rfl

theorem setExpr_lookup_ne (as : List (String × Expr)) (n x : String) (e' : Expr) (h : x ≠ n) :
    (setExpr as n e').lookup x = as.lookup x := by
  rw [setExpr_lookup]; simp [h]

theorem setExpr_lookup_isSome (as : List (String × Expr)) (n x : String) (e' : Expr) :
    ((setExpr as n e').lookup x).isSome = (as.lookup x).isSome := by
  rw [setExpr_lookup, Option.isSome_map]

theorem lookup_reverse_ne_none (l : List (String × String)) (n v : String) (h : (n, v) ∈ l) :
    l.reverse.lookup n ≠ none := by
  intro hc
  have := List.lookup_eq_none_iff.mp hc (n, v) (List.mem_reverse.mpr h)
  simp at this

/-- **a command-line override replaces an assignment's value without evaluating its expression**:
whatever expression the justfile gives the overridden variable — with any backticks, failing
functions or references — the whole evaluation of the module (every value, the backtick log, the
outcome) is the same as with any other expression in its place. -/
theorem override_skips_expression (ctx : Ctx) (as : List (String × Expr)) (n v : String) (e' : Expr)
    (overrides : List (String × String)) (fuel : Nat)
    (hn : (as.lookup n).isSome = true) (hov : (n, v) ∈ overrides) :
    evaluateAssignments ctx (setExpr as n e') overrides fuel = evaluateAssignments ctx as overrides fuel := by
  simp only [evaluateAssignments, setExpr_lookup_isSome]
  exact (evalAll_setExpr ctx n e' as (setExpr as n e') (fun x hx => (setExpr_lookup_ne as n x e' hx).symm) fuel as
    ⟨_, []⟩ (lookup_reverse_ne_none _ n v (List.mem_filter.mpr ⟨hov, hn⟩))).symm

/-! ### lookup order: the module's own assignment comes first -/

/-- **the pinned lookup order made values depend on assignment names**: with `HEX := 'mine'`
defined by the user, `A := HEX` saw the built-in constant (the enclosing scope was consulted before
the module's own, not yet evaluated, assignment) while `Z := HEX` saw `'mine'`; the repaired order
gives `'mine'` to both (witness for the `fix:` commit). -/
theorem own_assignment_first :
    let as : List (String × Expr) := [("A", .var "HEX"), ("HEX", .str "mine"), ("Z", .var "HEX")]
    let parent : String → Option String := fun x => if x = "HEX" then some "0123456789abcdef" else none
    let old : Ctx := { bt := fun _ => none, envVar := fun _ => none, parent := parent, ownFirst := false }
    let new : Ctx := { old with ownFirst := true }
    ((evaluateAssignments old as [] 10).1.scope.lookup "A" = some "0123456789abcdef" ∧
     (evaluateAssignments old as [] 10).1.scope.lookup "Z" = some "mine") ∧
    ((evaluateAssignments new as [] 10).1.scope.lookup "A" = some "mine" ∧
     (evaluateAssignments new as [] 10).1.scope.lookup "Z" = some "mine") := by
  decide +kernel

/-- **Once.**  Every assignment's expression is evaluated at most once per evaluation of the module
(`evaluate_assignment` binds the value; a bound name is looked up, never evaluated again) - for every
table whose references are acyclic (`Ranked`: what the assignment resolver guarantees, C03), any
overrides, any behaviour of backticks and functions, any fuel, whether the evaluation succeeds or
fails half-way.  `logged` is the ghost list of names whose expression started evaluating. -/
theorem each_assignment_once (rank : String → Nat) (ctx : Ctx) (as : List (String × Expr))
    (overrides : List (String × String)) (fuel R : Nat)
    (hacyclic : Ranked rank as) (hR : ∀ x e, as.lookup x = some e → rank x < R)
    (hkeys : ∀ p ∈ as, as.lookup p.1 = some p.2) :
    (logged (evaluateAssignments ctx as overrides fuel).1.log).Nodup :=
  (evalAll_once rank ctx as hacyclic fuel R hR as hkeys ⟨_, []⟩ ⟨.nil, nofun⟩).nodup

/-- non-vacuity: `a := b + c`, `b := c`, `c := 'x'` is ranked by position -/
example : Ranked (fun n => if n = "a" then 2 else if n = "b" then 1 else 0)
    [("a", .concat (.var "b") (.var "c")), ("b", .var "c"), ("c", .str "x")] := by
  intro x e hx y hy _
  simp only [List.lookup_cons, List.lookup_nil] at hx
  split at hx
  · cases hx; cases beq_iff_eq.mp ‹_›; simp [Expr.vars] at hy; rcases hy with rfl | rfl <;> decide
  · split at hx
    · cases hx; cases beq_iff_eq.mp ‹_›; cases List.mem_singleton.mp hy; decide
    · split at hx
      · cases hx; cases hy
      · cases hx

/-! ### `clean()`: lexical path cleaning (model `Just.Path` of `Path::components`, the lexiclean crate and `PathBuf`) -/
section Clean
open Just.Path

/-- **a cleaned path has nothing left to clean**: for every path text `p`, cleaning the cleaned
component list again changes nothing -/
theorem clean_idempotent (p : List Char) :
    cleanComps (cleanComps (components p)) = cleanComps (components p) :=
  cleanComps_idempotent _ (components_root_first p)

/-- **cleaning is idempotent on path TEXTS**: `lexiclean (lexiclean p) = lexiclean p` for every text —
the cleaned component list, written out with `PathBuf::push` and read again with
`Path::components`, is the same list (`components_render`), so `clean(clean(p)) = clean(p)` -/
theorem clean_text_idempotent (p : List Char) : cleanFn (cleanFn p) = cleanFn p := by
  unfold cleanFn
  by_cases h : lexiclean p = [] ∧ p ≠ []
  · -- `clean` gives `.`; cleaning `.` gives `.`
    rw [if_pos h]; decide
  · rw [if_neg h, lexiclean_idempotent]
    exact if_neg fun h' => h'.2 h'.1

/-- **what `clean` removes** (README: "removing extra path separators, intermediate `.` components,
and `..` where possible"): the result holds no `.` component, the root only in first place, and no
`..` that follows a name or the root — every `..` left stands at the very front of a relative path,
where there is nothing it could cancel -/
theorem clean_result (p : List Char) :
    .cur ∉ cleanComps (components p) ∧
    (∀ c ∈ (cleanComps (components p)).tail, c ≠ .root) ∧
    (∀ pre a post, cleanComps (components p) = pre ++ a :: .parent :: post → a = .parent) :=
  cleanComps_result _ (components_root_first p)

/-- non-vacuity: `a/./b/../../..//c` has all of it: it cleans to `../c` -/
example : cleanFn "a/./b/../../..//c".toList = "../c".toList ∧ cleanFn "foo/..".toList = ".".toList ∧
    cleanFn "/a/../..".toList = "/".toList := by
  -- a literal is `String.ofList` of its characters: no decoding of its bytes
  repeat rw [String.toList_ofList]
  decide +kernel

/-! #### `file_name`, `file_stem`, `extension`, `without_extension`, `join` -/

/-- **stem and extension recompose the file name**: whenever a path has an extension,
`file_stem(p) + "." + extension(p) = file_name(p)`, and the extension contains no dot -/
theorem stem_dot_extension (p e : List Char) (h : extensionOf p = some e) :
    ∃ f s, fileName p = some f ∧ fileStem p = some s ∧ f = s ++ '.' :: e ∧ '.' ∉ e := by
  unfold extensionOf at h
  unfold fileStem
  cases hf : fileName p with
  | none => rw [hf] at h; cases h
  | some f =>
    rw [hf, Option.bind_some] at h
    rw [Option.bind_some]
    rcases rsplitFileAtDot_cases f with hr | hr | ⟨b, a, hr, hfa, hdot⟩ <;> rw [hr] at h ⊢
    · cases h
    · cases h
    · cases h; exact ⟨f, b, rfl, rfl, hfa, hdot⟩

/-- **without an extension the stem is the whole name**: `file_stem(p) = file_name(p)` when
`extension(p)` fails on a path that has a file name — no dot, only a leading dot (`.bashrc`), or `..` -/
theorem stem_is_name_without_extension (p f : List Char) (hf : fileName p = some f)
    (he : extensionOf p = none) : fileStem p = some f := by
  unfold extensionOf at he
  unfold fileStem
  rw [hf, Option.bind_some] at he ⊢
  rcases rsplitFileAtDot_cases f with hr | hr | ⟨b, a, hr, _⟩ <;> rw [hr] at he ⊢
  · rfl
  · rfl
  · cases he

/-- **`without_extension` is the parent joined with the stem**, joined as `join` joins (`PathBuf::push`) -/
theorem without_extension_and_join (p w : List Char) (h : withoutExtension p = some w) :
    ∃ par stem, parentStr p = some par ∧ fileStem p = some stem ∧ w = joinPaths par [stem] := by
  unfold withoutExtension at h
  split at h
  · rename_i par stem hp hs
    exact ⟨par, stem, hp, hs, by simpa [joinPaths] using (Option.some.inj h).symm⟩
  · cases h

/-- **`join` with an absolute operand** is that operand: as in `PathBuf::push`, it replaces what came before -/
theorem join_absolute_replaces (base w : List Char) (rest : List Char) (hw : w = '/' :: rest) :
    joinPaths base [w] = w := by
  subst hw; simp [joinPaths, pushStr]

/-- the two component scanners (with and without offsets) see the same components -/
theorem scanners_agree (p : List Char) : (componentsPos p).map Prod.fst = components p := by
  unfold componentsPos components
  split
  · simp [scan_fst]
  · exact scan_fst p true 0 []

/-- non-vacuity: the README's examples -/
example : fileName "/foo/bar.txt".toList = some "bar.txt".toList ∧ extensionOf "/foo/bar.txt".toList = some "txt".toList ∧
    fileStem "/foo/bar.txt".toList = some "bar".toList ∧ parentStr "/foo/bar.txt".toList = some "/foo".toList ∧
    withoutExtension "/foo/bar.txt".toList = some "/foo/bar".toList ∧
    joinPaths "foo/bar".toList ["baz".toList] = "foo/bar/baz".toList ∧
    extensionOf ".bashrc".toList = none ∧ fileStem ".bashrc".toList = some ".bashrc".toList ∧
    extensionOf "foo.".toList = some [] ∧ parentStr "/".toList = none := by
  repeat rw [String.toList_ofList]
  decide +kernel

end Clean

/-! ### `encode_uri_component` (model `Just.Percent` over the UTF-8 bytes) -/
open Just.Percent in
/-- **percent-encoding loses nothing and writes only harmless bytes**: decoding the encoded text
gives back exactly the bytes of the argument, and every byte written is an ASCII letter or digit,
one of `- _ . ! ~ * ' ( )`, a `%`, or a hexadecimal digit — for every byte string -/
theorem encode_uri_component_roundtrip (bs : List Nat) (h : ∀ b ∈ bs, b < 256) :
    decode (encode bs) = some bs ∧
    ∀ c ∈ encode bs, isSafe c = true ∨ c = 37 ∨ (unhex c).isSome = true :=
  ⟨decode_encode bs h, encode_output bs h⟩

open Just.Percent in
/-- non-vacuity: `a b/é` (bytes 97 32 98 47 195 169) becomes `a%20b%2F%C3%A9` -/
example : encode [97, 32, 98, 47, 195, 169] = "a%20b%2F%C3%A9".toList.map Char.toNat := by
  rw [String.toList_ofList]
  decide +kernel

/-! ### `trim_start_matches` / `trim_end_matches`: "repeatedly remove prefixes / suffixes" -/

/-- **`trim_start_matches(s, pat)`** (non-empty `pat`): the text is some number of copies of `pat`
followed by the result, and the result does not start with `pat` — every leading copy is removed,
nothing else is -/
theorem trim_start_matches_spec (s pat : List Char) (hp : pat ≠ []) :
    ∃ k, s = (List.replicate k pat).flatten ++ trimStartMatchesL pat (s.length + 1) s ∧
      pat.isPrefixOf (trimStartMatchesL pat (s.length + 1) s) = false :=
  trimStartMatchesL_spec pat hp (s.length + 1) s (by omega)

/-- **`trim_end_matches(s, pat)`**: the result followed by some number of copies of `pat` is the text,
and the result does not end with `pat` -/
theorem trim_end_matches_spec (s pat : List Char) (hp : pat ≠ []) :
    ∃ k, s = trimEndMatchesL pat (s.length + 1) s ++ (List.replicate k pat).flatten ∧
      ¬ pat <:+ trimEndMatchesL pat (s.length + 1) s :=
  trimEndMatchesL_spec pat hp (s.length + 1) s (by omega)

/-- `trim_start` is idempotent and its result does not start with white space -/
theorem trim_start_spec (l : List Char) :
    trimStartL (trimStartL l) = trimStartL l ∧ ∀ c, (trimStartL l).head? = some c → isWs c = false :=
  ⟨dropWhile_eq_self fun _ => dropWhile_head, fun _ => dropWhile_head⟩

example : trimStartMatchesL "ab".toList 8 "ababxab".toList = "xab".toList := by
  repeat rw [String.toList_ofList]
  decide +kernel

/-! ### `absolute_path()`: the working directory joined with the argument, cleaned -/
section AbsolutePath
open Just.Path

/-- **`absolute_path` gives an absolute path**: whatever the argument, in an absolute working
directory the result starts with `/` -/
theorem absolute_path_is_absolute (wd p t : List Char) (hwd : wd = '/' :: t) :
    ∃ t', absolutePath wd p = '/' :: t' := by
  obtain ⟨u, hu⟩ := pushStr_absolute t p
  rw [hwd, absolutePath, hu]
  exact lexiclean_absolute u

/-- **an absolute argument ignores the working directory**: it is only cleaned -/
theorem absolute_path_of_absolute (wd t : List Char) : absolutePath wd ('/' :: t) = lexiclean ('/' :: t) := by
  simp [absolutePath, pushStr]

/-- **`absolute_path` is idempotent**: applying it to its own result changes nothing (the result is
absolute, so the working directory is not joined again, and it is clean, so nothing is removed) -/
theorem absolute_path_idempotent (wd p t : List Char) (hwd : wd = '/' :: t) :
    absolutePath wd (absolutePath wd p) = absolutePath wd p := by
  obtain ⟨u, hu⟩ := absolute_path_is_absolute wd p t hwd
  rw [hu, absolute_path_of_absolute, ← hu]
  unfold absolutePath
  exact lexiclean_idempotent _

/-- non-vacuity: in `/w/d`, `absolute_path("a/../b/./c")` is `/w/d/b/c` and `absolute_path("../x")` is `/w/x` -/
example : absolutePath "/w/d".toList "a/../b/./c".toList = "/w/d/b/c".toList ∧
    absolutePath "/w/d".toList "../x".toList = "/w/x".toList := by
  repeat rw [String.toList_ofList]
  decide +kernel

end AbsolutePath

/-! ### the case conversions (model `Just.Case` of `heck::transform`, ASCII text as code points) -/
section CaseConversion
open Just.Case

/-- **the words** every conversion writes are non-empty runs of letters and digits, and written one
after the other they are exactly the letters and digits of the text, in order: no character is
lost, invented or moved, and no separator of the input survives -/
theorem case_words (s : List Nat) :
    (∀ w ∈ words s, w ≠ [] ∧ ∀ c ∈ w, isAlnum c = true) ∧ (words s).flatten = s.filter isAlnum :=
  ⟨words_alnum s, words_flatten s⟩

/-- **`kebabcase` writes kebab-case**: only lower-case letters, digits and `-` -/
theorem kebabcase_alphabet (s : List Nat) : ∀ c ∈ kebab s, isLower c = true ∨ isDigit c = true ∨ c = 45 := by
  intro c hc
  rcases mem_joinWith [45] _ c hc with h | ⟨w, hw, hcw⟩
  · right; right; simpa using h
  · have := (lowered_words s w hw).2 c hcw
    rcases (alnum_iff c).mp this.1 with h | h | h
    · exact Or.inl h
    · rw [this.2] at h; cases h
    · exact Or.inr (Or.inl h)

/-- **`kebabcase` keeps the letters and digits**: without its separators the result is the
lower-cased letters and digits of the text, in order -/
theorem kebabcase_keeps_letters_and_digits (s : List Nat) :
    (kebab s).filter isAlnum = (s.filter isAlnum).map toLower := by
  unfold kebab
  rw [filter_joinWith [45] (by decide) _ (fun w hw c hc => ((lowered_words s w hw).2 c hc).1)]
  rw [← words_flatten s]
  have hl : lowerWord = List.map toLower := by funext w; rfl
  simp [hl, List.map_flatten]

/-- **`kebabcase` and `snakecase` are idempotent**: the result is a fixed point — a text in the style
is cut back into its own words -/
theorem kebabcase_idempotent (s : List Nat) : kebab (kebab s) = kebab s :=
  lower_style_idempotent 45 (by decide) s

theorem snakecase_idempotent (s : List Nat) : snake (snake s) = snake s :=
  lower_style_idempotent 95 (by decide) s

/-- **the shouty styles are the upper-cased lower styles**: `shoutysnakecase(s)` is `snakecase(s)` with
every letter in upper case, and likewise for kebab -/
theorem shouty_is_uppercase_of_lower_style (sep : Nat) (hsep : toUpper sep = sep) (ws : List (List Nat)) :
    (joinWith [sep] (ws.map lowerWord)).map toUpper = joinWith [sep] (ws.map upperWord) := by
  rw [map_joinWith, List.map_map, List.map_cons, hsep]
  congr 2
  funext w
  simp only [Function.comp_def, lowerWord, upperWord, List.map_map, toUpper_toLower]

theorem shoutysnakecase_is_uppercase_of_snakecase (s : List Nat) : shoutySnake s = (snake s).map toUpper :=
  (shouty_is_uppercase_of_lower_style 95 (by decide) (words s)).symm

theorem shoutykebabcase_is_uppercase_of_kebabcase (s : List Nat) : shoutyKebab s = (kebab s).map toUpper :=
  (shouty_is_uppercase_of_lower_style 45 (by decide) (words s)).symm

/-- **`uppercamelcase` keeps the letters and digits**: read without regard to case, the result is the text's letters and
digits in order — nothing but the case changes and the separators go -/
theorem upperCamel_keeps_letters_and_digits (s : List Nat) :
    (upperCamel s).map toLower = (s.filter isAlnum).map toLower := by
  unfold upperCamel
  rw [joinWith_nil, ← words_flatten s]
  induction words s with
  | nil => rfl
  | cons w ws ih => simp [capWord_lower, ih]

/-- non-vacuity and the boundaries the styles are known for: `fooBarBAZQux x2Y, HTTPServer` -/
example : kebab ("fooBarBAZQux x2Y, HTTPServer".toList.map Char.toNat)
    = "foo-bar-baz-qux-x2-y-http-server".toList.map Char.toNat := by
  repeat rw [String.toList_ofList]
  decide +kernel

end CaseConversion

end Just.Props.C04
