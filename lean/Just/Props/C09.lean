/-
C09 — every command runs in the documented working directory.
-/
import Just.Model.Workdir
import Just.Lemmas.Path
namespace Just.Props.C09
open Just.Workdir

/-- the documented rule, stated directly -/
def specCwd (inv justfileOrWorkDir : Path) (moduleFileDir : Option Path) (setting attr : Option Rel)
    (noCd : Bool) : Path :=
  if noCd then inv else
    let base := moduleFileDir.getD justfileOrWorkDir
    let adjusted := match setting with | some s => join base s | none => base
    match attr with | some a => join adjusted a | none => adjusted

theorem recipe_cwd_table (c : Ctx) (a : Attrs) :
    recipeCwd c a = specCwd c.invocationDir c.search.workDir (moduleDirOf c.chain none) c.setting a.attr a.noCd := by
  unfold recipeCwd specCwd moduleWD
  cases a.noCd <;> cases c.setting <;> cases a.attr <;> cases moduleDirOf c.chain none <;> rfl

/-- an absolute `[working-directory]` is taken as is, whatever module, setting or flags -/
theorem absolute_attribute_wins (c : Ctx) (p : Path) :
    recipeCwd c ⟨false, some (.abs p)⟩ = p := by
  simp [recipeCwd, join]

/-- a relative one is resolved against the module directory as adjusted by the setting -/
theorem relative_attribute (c : Ctx) (p : List String) :
    recipeCwd c ⟨false, some (.rel p)⟩ = moduleWD c ++ p := by
  simp [recipeCwd, join]

theorem no_cd_is_invocation_dir (c : Ctx) (attr : Option Rel) :
    recipeCwd c ⟨true, attr⟩ = c.invocationDir := by
  simp [recipeCwd]

theorem backtick_ignores_attribute_and_no_cd (c : Ctx) (a : Attrs) :
    backtickCwd c = recipeCwd c ⟨false, none⟩ := by
  simp [backtickCwd, recipeCwd]

theorem imports_inherit_importer (imports : List Edge) (acc : Option Path)
    (himp : ∀ e ∈ imports, ∃ x, e = .import x) : moduleDirOf imports acc = acc := by
  fun_induction moduleDirOf imports acc
  case case1 => rfl
  case case2 ih => exact ih fun e he => himp e (.tail _ he)
  case case3 => obtain ⟨x, hx⟩ := himp _ (.head _); cases hx

theorem moduleDirOf_append (a b : List Edge) (acc : Option Path) :
    moduleDirOf (a ++ b) acc = moduleDirOf b (moduleDirOf a acc) := by
  fun_induction moduleDirOf a acc <;> simp_all [moduleDirOf]

/-- **imports inherit the importer's directory, modules use their source file's directory** —
for any nesting of modules and imports: the module directory is that of the LAST `mod` edge on
the way to the file, and the root's (justfile or `--working-directory`) if there is none. -/
theorem module_dir_of_chain (pre : List Edge) (d : Path) (imports : List Edge) (acc : Option Path)
    (himp : ∀ e ∈ imports, ∃ x, e = .import x) :
    moduleDirOf (pre ++ .module d :: imports) acc = some d := by
  rw [moduleDirOf_append]
  exact imports_inherit_importer imports (some d) himp

/-- `--justfile` with `--working-directory` replaces the justfile directory for the root module
only: submodules keep their source file's directory -/
theorem working_directory_flag_root_only (c : Ctx) (w : Path) (d : Path)
    (h : moduleDirOf c.chain none = some d) :
    moduleWD { c with search := { c.search with workDir := w } } = moduleWD c := by
  simp [moduleWD, h]

theorem directory_functions_constant (c : Ctx) (setting : Option Rel) (w : Path) :
    let c' := { c with setting := setting, search := { c.search with workDir := w } }
    invocationDirectory c' = c.invocationDir ∧ justfileDirectory c' = c.search.justfileDir ∧
      sourceDirectory c' = sourceDirectory c := by
  simp [invocationDirectory, justfileDirectory, sourceDirectory]

/-- `source_directory()` is the directory of the file containing the call: the last edge's -/
theorem source_directory_last (root : Path) (pre : List Edge) (d : Path) :
    sourceDirOf root (pre ++ [.import d]) = d ∧ sourceDirOf root (pre ++ [.module d]) = d := by
  induction pre with
  | nil => exact ⟨rfl, rfl⟩
  | cons e es ih =>
    cases es with
    | nil => cases e <;> exact ⟨rfl, rfl⟩
    | cons e2 es2 =>
      simp only [List.cons_append] at ih ⊢
      cases e <;> simp only [sourceDirOf] <;> exact ih

/-- non-vacuity: a recipe in a file imported by submodule `mods/sub.just` with
`set working-directory := 'wd'` and `[working-directory('ad')]` -/
example :
    recipeCwd ⟨["inv"], ⟨["proj"], ["proj"]⟩, [.module ["proj", "mods"], .import ["proj", "mods", "inner"]],
      some (.rel ["wd"])⟩ ⟨false, some (.rel ["ad"])⟩ = ["proj", "mods", "wd", "ad"] := by
  decide +kernel

/-! ### `--justfile` / `--working-directory` given as relative paths (`Search::clean`, model `Just.Path`) -/
open Just.Path in
/-- **the directory just works with holds no `..`**: however the path is spelled, what
`Search::clean` makes of it has no parent-directory component left, and a `name/..` detour in the
spelling changes nothing -/
theorem search_clean_normalises (cs d t : List Comp) (x : List Char) :
    Comp.parent ∉ searchCleanComps cs ∧
    searchCleanComps (d ++ Comp.normal x :: Comp.parent :: t) = searchCleanComps (d ++ t) := by
  refine ⟨searchClean_no_parent cs, ?_⟩
  unfold searchCleanComps
  simp [List.foldl_append, searchCleanStep]

open Just.Path in
/-- non-vacuity, on texts: three spellings from `/w/proj/x/y` name `/w/proj/justfile`; above the root
a `..` is dropped -/
example : searchClean "/w/proj/x/y".toList "./../../justfile".toList = "/w/proj/justfile".toList ∧
    searchClean "/w/proj/x/y".toList "../.././justfile".toList = "/w/proj/justfile".toList ∧
    searchClean "/w/proj/x/y".toList "detour/../../../justfile".toList = "/w/proj/justfile".toList ∧
    searchClean "/w".toList "../../../j".toList = "/j".toList := by
  -- a literal is `String.ofList` of its characters: no decoding of its bytes
  repeat rw [String.toList_ofList]
  decide +kernel

end Just.Props.C09
