/-
C13 — fatal signals: wait for the running child, then stop; never orphan it.
Theorems over the transition system `Just.Signals`, for every command sequence and EVERY
interleaving of signal deliveries (schedules are universally quantified step lists).
-/
import Just.Model.Signals
namespace Just.Props.C13
open Just.Signals Just.Run

theorem afterChild_frame (s : St) (c : Cmd) (st : Status) :
    ∃ x, afterChild s c st = { s with running := none, exited := x } := by
  unfold afterChild
  cases st.toErr <;> cases c.infallible <;> cases s.caught <;> cases s.todo <;> exact ⟨_, rfl⟩

theorem afterChild_running (s : St) (c : Cmd) (st : Status) : (afterChild s c st).running = none := by
  obtain ⟨x, h⟩ := afterChild_frame s c st; rw [h]

theorem step_exit_inv (record : Bool) (s : St) (x : Step)
    (h : s.exited.isSome → s.running = none) :
    (step record s x).exited.isSome → (step record s x).running = none := by
  unfold step
  split
  · exact h
  -- a signal sets `exited` only when nothing runs; `afterChild` sets it and unregisters the child
  · cases x with
    | signal g => cases hr : s.running <;> simp_all
    | spawn => cases hr : s.running <;> cases ht : s.todo <;> simp_all
    | finish st => cases hr : s.running <;> simp_all [afterChild_running]

theorem run_invariant {I : St → Prop} {record : Bool} (hstep : ∀ s x, I s → I (step record s x)) :
    ∀ (steps : List Step) (s : St), I s → I (run record s steps)
  | [], _, h => h
  | x :: xs, s, h => run_invariant hstep xs _ (hstep s x h)

/-- **just never exits while a command it started is still running**: in every state reachable by
any schedule, `exited` implies that no child is registered. -/
theorem never_exit_with_child (record : Bool) (cmds : List Cmd) (steps : List Step) :
    (run record (init cmds) steps).exited.isSome → (run record (init cmds) steps).running = none :=
  run_invariant (I := fun s => s.exited.isSome → s.running = none) (step_exit_inv record) steps _
    (by intro h; simp [init] at h)

/-- `s` spawns nothing more: just has exited, or has caught a signal while a command that is no `-` line runs (every step keeps
this: `step_doomed`) -/
def Doomed (s : St) : Prop :=
  s.exited.isSome ∨ (s.caught.isSome ∧ ∃ c, s.running = some c ∧ c.infallible = false)

theorem afterChild_doomed (s : St) (c : Cmd) (st : Status) (hc : s.caught.isSome)
    (hf : c.infallible = false) : (afterChild s c st).exited.isSome := by
  obtain ⟨g, hg⟩ := Option.isSome_iff_exists.mp hc
  cases h : st.toErr <;> simp [afterChild, hf, hg, h]

theorem afterChild_spawned (s : St) (c : Cmd) (st : Status) : (afterChild s c st).spawned = s.spawned := by
  obtain ⟨x, h⟩ := afterChild_frame s c st; rw [h]

theorem step_doomed (s : St) (x : Step) (h : Doomed s) :
    Doomed (step true s x) ∧ (step true s x).spawned = s.spawned := by
  unfold step
  split
  · exact ⟨h, rfl⟩
  · rcases h with h | ⟨hc, c, hr, hf⟩
    · contradiction
    · cases x with
      | signal g => exact ⟨.inr ⟨by cases hcg : s.caught <;> simp [hr], c, by simp [hr], hf⟩, by simp [hr]⟩
      | spawn => simp only [hr]; exact ⟨.inr ⟨hc, c, hr, hf⟩, trivial⟩
      | finish st => simp only [hr]; exact ⟨.inl (afterChild_doomed s c st hc hf), afterChild_spawned s c st⟩

theorem run_doomed (steps : List Step) (s : St) (h : Doomed s) :
    (run true s steps).spawned = s.spawned ∧ Doomed (run true s steps) :=
  have := run_invariant (I := fun t => Doomed t ∧ t.spawned = s.spawned)
    (fun t x ⟨hd, hs⟩ => ⟨(step_doomed t x hd).1, (step_doomed t x hd).2.trans hs⟩) steps s ⟨h, rfl⟩
  ⟨this.2, this.1⟩

/-- **no further command once the interrupted one has ended**: if a fatal signal is processed at a
moment when a command that is not a `-` line is running, then — whatever happens afterwards, in
any order, including the command ending successfully — no further recipe line, backtick, script or
dependency is ever spawned (with the repaired handler, `record = true`). -/
theorem no_spawn_after_caught (cmds : List Cmd) (pre post : List Step) (g : Sig) (c : Cmd)
    (hrun : (run true (init cmds) pre).running = some c) (hf : c.infallible = false)
    (hne : (run true (init cmds) pre).exited = none) :
    (run true (step true (run true (init cmds) pre) (.signal g)) post).spawned =
      (run true (init cmds) pre).spawned := by
  have hst : Doomed (step true (run true (init cmds) pre) (.signal g)) ∧
      (step true (run true (init cmds) pre) (.signal g)).spawned = (run true (init cmds) pre).spawned := by
    generalize run true (init cmds) pre = s at *
    unfold step
    simp only [hne, hrun, Option.isSome_none, Bool.false_eq_true, if_false]
    exact ⟨.inr ⟨by cases s.caught <;> simp, c, rfl, hf⟩, trivial⟩
  rw [(run_doomed post _ hst.1).1, hst.2]

/-- and it does stop: as soon as that command ends, just exits -/
theorem exits_when_child_ends (s : St) (c : Cmd) (st : Status) (hne : s.exited = none)
    (hr : s.running = some c) (hf : c.infallible = false) (hc : s.caught.isSome) :
    (step true s (.finish st)).exited.isSome := by
  unfold step
  simp only [hne, Option.isSome_none, Bool.false_eq_true, if_false, hr]
  exact afterChild_doomed s c st hc hf

/-- **exit status**: 128+signal if the interrupted command succeeded, otherwise the command's own
failure status (which is 128+n when it died from signal n, e.g. from the delivered signal). -/
theorem exit_code (s : St) (c : Cmd) (st : Status) (g : Sig) (hne : s.exited = none)
    (hr : s.running = some c) (hf : c.infallible = false) (hc : s.caught = some g) :
    (step true s (.finish st)).exited = some (match st with
      | .ok => 128 + g.num
      | .code n => n
      | .signal n => 128 + n) := by
  unfold step
  simp only [hne, Option.isSome_none, Bool.false_eq_true, if_false, hr]
  unfold afterChild
  cases st <;> simp [Status.toErr, hf, hc, Err.exit]

/-- **idle**: with no command running the signal makes just exit at once with 128+signal -/
theorem idle_exits_at_once (record : Bool) (s : St) (g : Sig) (hne : s.exited = none)
    (hr : s.running = none) : (step record s (.signal g)).exited = some (128 + g.num) := by
  unfold step
  simp [hne, hr]

theorem first_signal_kept (s : St) (c : Cmd) (g g' : Sig) (hne : s.exited = none)
    (hr : s.running = some c) (hc : s.caught = some g) :
    (step true s (.signal g')).caught = some g := by
  unfold step
  simp [hne, hr, hc]

/-- **SIGTERM is forwarded** to the running command, the other signals are not -/
theorem sigterm_forwarded (record : Bool) (s : St) (c : Cmd) (g : Sig) (hne : s.exited = none)
    (hr : s.running = some c) :
    (step record s (.signal g)).forwarded = if g = .term then s.forwarded + 1 else s.forwarded := by
  unfold step
  simp [hne, hr]

/-! ### the pinned Linux behaviour (`record = false`) violates the property -/

/-- With the handler that does not remember the signal (the pinned source on Linux): SIGINT while
line 1 runs, line 1 then exits 0 — line 2 is spawned and just exits 0. -/
theorem unrecorded_signal_is_forgotten :
    let s := run false (init [⟨false⟩, ⟨false⟩]) [.spawn, .signal .int, .finish .ok, .spawn, .finish .ok]
    s.spawned = 2 ∧ s.exited = some 0 := by
  decide +kernel

/-- the same schedule with the repaired handler: line 2 never starts, exit 130 -/
theorem recorded_signal_stops :
    let s := run true (init [⟨false⟩, ⟨false⟩]) [.spawn, .signal .int, .finish .ok, .spawn, .finish .ok]
    s.spawned = 1 ∧ s.exited = some 130 := by
  decide +kernel

/-- **the signals of the model are the signals of the source**: the four fatal signals and their
numbers are exactly the variants `enum Signal` has on this platform (`Generated.signalTable` is
regenerated from src/signal.rs on every run, so a change there breaks this theorem) -/
theorem signals_match_source :
    [Sig.hup, Sig.int, Sig.quit, Sig.term].map (fun g => (g.variant, g.num)) = Generated.signalTable := by
  decide +kernel

end Just.Props.C13
