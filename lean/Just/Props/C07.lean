/-
C07 — argument and override values reach commands byte-for-byte.
`quote(x)` always expands to exactly one shell word equal to x, for EVERY string x, and no value
can open a further word (hence a further command) in the surrounding command line.
-/
import Just.Model.Quote
import Just.Lemmas.Channels
import Just.Props.C08
namespace Just.Props.C07
open Just.Quote

theorem shRun_append (st : St) (a b : List Char) :
    shRun st (a ++ b) = (shRun st a).bind (fun st' => shRun st' b) := by
  induction a generalizing st with
  | nil => rfl
  | cons c cs ih =>
    simp only [List.cons_append, shRun]
    cases stepC st c with
    | none => rfl
    | some st' => exact ih st'

theorem sq_body (s : List Char) (cur : List Char) (acc : List (List Char)) :
    shRun { mode := .sq, cur := cur, acc := acc } (quoteChars s ++ ['\'']) =
      some { mode := .word, cur := s.reverse ++ cur, acc := acc } := by
  induction s generalizing cur with
  | nil => simp [quoteChars, shRun, stepC]
  | cons c cs ih =>
    by_cases hc : c = '\''
    -- `'\''`: the quote closes, the escaped quote joins the word, the quote opens again
    · simp [quoteChars, shRun, stepC, hc, ih]
    · simp [quoteChars, shRun, stepC, hc, ih]

/-- `quote(s)` met between words or inside a word appends exactly `s` to the current word and
leaves the recogniser inside that word — it neither ends the word nor starts another one. -/
theorem quote_segment (s : List Char) (cur : List Char) (acc : List (List Char)) :
    shRun { mode := .word, cur := cur, acc := acc } (quote s) =
      some { mode := .word, cur := s.reverse ++ cur, acc := acc } ∧
    shRun { mode := .out, cur := cur, acc := acc } (quote s) =
      some { mode := .word, cur := s.reverse, acc := acc } := by
  simp [quote, shRun, stepC, sq_body]

/-- **`{{quote(x)}}` is exactly one shell word equal to x** — for every string x of every length
over the full character set (NUL cannot occur in an argument). -/
theorem quote_one_word (s : List Char) : shSplit (quote s) = some [s] := by
  simp [shSplit, init, (quote_segment s [] []).2, finish]

/-! ### no value can start another word (or command) -/

/-- what of the recogniser's state the rest of the command line can depend on -/
def shape (st : St) : Mode × Nat := (st.mode, st.acc.length)

theorem stepC_shape (st st' : St) (c : Char) (h : shape st = shape st') :
    (stepC st c).map shape = (stepC st' c).map shape := by
  obtain ⟨m, cur, acc⟩ := st
  obtain ⟨m', cur', acc'⟩ := st'
  obtain ⟨rfl, hl⟩ := Prod.mk.inj h
  -- `shape` pushed through the tests of `stepC`: what is left mentions only the mode and `acc.length`
  cases m <;>
    simp only [stepC, shape, apply_ite (Option.map shape), Option.map_some, Option.map_none,
      List.length_cons, hl]

theorem map_bind_congr {α β γ δ : Type} {f : α → γ} {f' : β → δ} {a b : Option α} {g : α → Option β}
    (h : a.map f = b.map f) (hg : ∀ x y, f x = f y → (g x).map f' = (g y).map f') :
    (a.bind g).map f' = (b.bind g).map f' := by
  cases a with
  | none => cases b with
    | none => rfl
    | some y => cases h
  | some x => cases b with
    | none => cases h
    | some y => exact hg x y (Option.some.inj h)

theorem shRun_cons (st : St) (c : Char) (cs : List Char) :
    shRun st (c :: cs) = (stepC st c).bind (fun st' => shRun st' cs) := by
  rw [shRun]; cases stepC st c <;> rfl

theorem shRun_shape (input : List Char) : ∀ st st', shape st = shape st' →
    (shRun st input).map shape = (shRun st' input).map shape := by
  induction input with
  | nil => intro st st' h; simp [shRun, h]
  | cons c cs ih =>
    intro st st' h
    rw [shRun_cons, shRun_cons]
    exact map_bind_congr (stepC_shape st st' c h) ih

theorem finish_shape (st st' : St) (h : shape st = shape st') :
    (finish st).map List.length = (finish st').map List.length := by
  obtain ⟨m, cur, acc⟩ := st
  obtain ⟨m', cur', acc'⟩ := st'
  simp only [shape, Prod.mk.injEq] at h
  obtain ⟨hm, hl⟩ := h
  subst hm
  cases m <;> simp [finish, hl]

theorem shSplit_eq (input : List Char) : shSplit input = (shRun init input).bind finish := by
  rw [shSplit]; cases shRun init input <;> rfl

/-- **injection freedom**: in any command line `pre ++ quote(x) ++ post` in which the interpolation
stands between words or inside an unquoted word (i.e. `pre` does not leave a quote or a backslash
open), replacing the value x by any other value y changes neither whether the shell can parse the
line nor the NUMBER of words it sees: no value can close the word it is in, open a new word, or
start a new command. -/
theorem quote_injection_free (pre post x y : List Char)
    (hpre : ∀ st, shRun init pre = some st → st.mode = .out ∨ st.mode = .word) :
    (shSplit (pre ++ quote x ++ post)).map List.length =
      (shSplit (pre ++ quote y ++ post)).map List.length := by
  rw [shSplit_eq, shSplit_eq, shRun_append, shRun_append, shRun_append, shRun_append]
  -- after `pre`, both quoted values leave the recogniser in one shape; the rest sees only the shape
  refine map_bind_congr (map_bind_congr ?_ (shRun_shape post)) finish_shape
  cases hp : shRun init pre with
  | none => rfl
  | some st =>
    obtain ⟨m, cur, acc⟩ := st
    rcases hpre _ hp with hm | hm <;> cases hm
    · rw [Option.bind_some, Option.bind_some, (quote_segment x cur acc).2, (quote_segment y cur acc).2]; rfl
    · rw [Option.bind_some, Option.bind_some, (quote_segment x cur acc).1, (quote_segment y cur acc).1]; rfl

/-- non-vacuity: `printf x␣` leaves the recogniser between words (`%` and `>` are outside the modelled subset) -/
example : ∀ st, shRun init "printf x ".toList = some st → st.mode = .out ∨ st.mode = .word := by
  rw [String.toList_ofList]
  intro st h
  -- the run is evaluated by the kernel alone, on the modes (states have no decidable equality)
  have := congrArg (Option.map St.mode) h
  rw [show Option.map St.mode (shRun init _) = some .out by decide +kernel] at this
  exact .inl (Option.some.inj this).symm

example : shSplit (quote "it's".toList) = some ["it's".toList] := quote_one_word _

example : quote "it's".toList = "'it'\\''s'".toList := by
  repeat rw [String.toList_ofList]
  rfl

/-! ### the other two channels: `"$1"` … `"$@"` / `$0`, and exported parameters

`Fits qs ws` is what the argument parser guarantees (C05 `group_arity`): no word is left over. -/
open Just.Channels Just.Args Just.EnvExport Just.Props.C08

/-- **positional channel, linewise recipes**: under positional-arguments the child's argv is the
shell and its arguments, the command, then the recipe name (`$0`) and then the words of the
command line — every one of them, unchanged, one argv element per word, in order (`"$1"` …,
`"$@"`) — followed only by defaults of omitted parameters.  No word is split, joined or dropped,
whatever characters it contains. -/
theorem positional_channel_linewise (qs : List NParam) (ws bound : List String) (sc : Scope)
    (pos shell : List String) (cmd name : String)
    (hf : Fits qs ws) (h : evalParams qs ws bound = some (sc, pos)) :
    ∃ tail, linewiseArgv shell cmd true name pos = shell ++ [cmd, name] ++ ws ++ tail := by
  obtain ⟨tail, ht⟩ := evalParams_positional hf h
  exact ⟨tail, by simp [linewiseArgv, ht]⟩

/-- `$0` is the recipe name and `$k` is the k-th word, as indices into the child's argv -/
theorem positional_channel_index (qs : List NParam) (ws bound : List String) (sc : Scope)
    (pos shell : List String) (cmd name : String)
    (hf : Fits qs ws) (h : evalParams qs ws bound = some (sc, pos)) :
    (linewiseArgv shell cmd true name pos)[shell.length + 1]? = some name ∧
    ∀ k (hk : k < ws.length), (linewiseArgv shell cmd true name pos)[shell.length + 2 + k]? = some ws[k] := by
  obtain ⟨tail, ht⟩ := positional_channel_linewise qs ws bound sc pos shell cmd name hf h
  rw [ht]
  constructor
  · simp
  · intro k hk
    rw [List.append_assoc, List.getElem?_append_right (by simp)]
    simp [List.getElem?_append_left hk]

/-- **positional channel, shebang and `[script]` recipes**: interpreter, script path, then the words -/
theorem positional_channel_script (qs : List NParam) (ws bound : List String) (sc : Scope)
    (pos interp : List String) (path : String)
    (hf : Fits qs ws) (h : evalParams qs ws bound = some (sc, pos)) :
    ∃ tail, scriptArgv interp path true pos = interp ++ [path] ++ ws ++ tail := by
  obtain ⟨tail, ht⟩ := evalParams_positional hf h
  exact ⟨tail, by simp [scriptArgv, ht]⟩

/-- without positional-arguments no value reaches argv at all -/
theorem positional_off (pos shell : List String) (cmd name path : String) :
    linewiseArgv shell cmd false name pos = shell ++ [cmd] ∧
    scriptArgv shell path false pos = shell ++ [path] := by
  simp [linewiseArgv, scriptArgv]

/-- whatever just's own environment, the `.env` file, the enclosing scopes and the `unexport`
list hold: a name the parameter scope exports reaches the child with the parameter's value -/
theorem recipeEnv_param (base : Env) (dotenv : List (String × String)) (se : Bool)
    (un : List String) (outer : List Scope) (params : Scope) (n v : String)
    (h : exportedIn se params n = some v) :
    recipeEnv base dotenv se un outer params n = some v := by
  unfold recipeEnv childEnv
  have : (outer ++ [params, []]).dropLast = outer ++ [params] := by
    have : outer ++ [params, []] = (outer ++ [params]) ++ [[]] := by simp
    rw [this, List.dropLast_concat]
  rw [this, exportScopes_append_last, exportBindings_eq, h]

theorem recipeEnv_binding (base : Env) (dotenv : List (String × String)) (se : Bool) (un : List String)
    (outer : List Scope) {qs : List NParam} {ws bound : List String} {sc : Scope} {pos : List String}
    (h : evalParams qs ws bound = some (sc, pos)) (hnd : (qs.map (·.name)).Nodup)
    {i : Nat} {hq : i < qs.length} {hs : i < sc.length} {v : String} (he : sc[i] = mkBinding qs[i] v)
    (hexp : (qs[i]).exported = true ∨ se = true) :
    recipeEnv base dotenv se un outer sc (qs[i]).name = some v := by
  have hx : isExported se sc[i] = true := by
    rw [he]
    rcases hexp with hexp | hexp <;> simp [isExported, mkBinding, hexp]
  have := exportedIn_of_mem se sc (by rw [(evalParams_scope h).1]; exact hnd) _ (List.getElem_mem hs) hx
  rw [he] at this
  exact recipeEnv_param base dotenv se un outer sc _ _ this

/-- **export channel, singular parameter**: a word given for an exported parameter (`$p`, or any
parameter under `set export`) is the value of the environment variable `p` in the child —
whatever just's own environment, a loaded `.env` file, the variables of the enclosing modules
and the `unexport` list contain. -/
theorem export_channel_singular (base : Env) (dotenv : List (String × String)) (se : Bool)
    (un : List String) (outer : List Scope)
    (qs : List NParam) (ws bound : List String) (sc : Scope) (pos : List String)
    (h : evalParams qs ws bound = some (sc, pos)) (hnd : (qs.map (·.name)).Nodup)
    (i : Nat) (hq : i < qs.length) (hw : i < ws.length)
    (hsing : ∀ j (hj : j < qs.length), j ≤ i → (qs[j]).p.isVariadic = false)
    (hexp : (qs[i]).exported = true ∨ se = true) :
    recipeEnv base dotenv se un outer sc (qs[i]).name = some ws[i] := by
  obtain ⟨hs, he⟩ := evalParams_get hq hw h
    (fun j hj hji => hsing j hj (Nat.le_of_lt hji))
  rw [if_neg (by simp [hsing i hq (Nat.le_refl i)])] at he
  exact recipeEnv_binding base dotenv se un outer h hnd he hexp

/-- **export channel, variadic parameter**: the remaining words joined by single spaces -/
theorem export_channel_variadic (base : Env) (dotenv : List (String × String)) (se : Bool)
    (un : List String) (outer : List Scope)
    (qs : List NParam) (ws bound : List String) (sc : Scope) (pos : List String)
    (h : evalParams qs ws bound = some (sc, pos)) (hnd : (qs.map (·.name)).Nodup)
    (i : Nat) (hq : i < qs.length) (hw : i < ws.length)
    (hsing : ∀ j (hj : j < qs.length), j < i → (qs[j]).p.isVariadic = false)
    (hvar : (qs[i]).p.isVariadic = true)
    (hexp : (qs[i]).exported = true ∨ se = true) :
    recipeEnv base dotenv se un outer sc (qs[i]).name = some (joinWith " " (ws.drop i)) := by
  obtain ⟨hs, he⟩ := evalParams_get hq hw h hsing
  rw [if_pos hvar] at he
  exact recipeEnv_binding base dotenv se un outer h hnd he hexp

/-- **quote channel**: `{{quote(p)}}` for a singular parameter given the word `w` is one shell word
equal to `w` — the third channel composed from the binding and `quote_one_word` -/
theorem quote_channel_singular (qs : List NParam) (ws bound : List String) (sc : Scope) (pos : List String)
    (h : evalParams qs ws bound = some (sc, pos))
    (i : Nat) (hq : i < qs.length) (hw : i < ws.length)
    (hsing : ∀ j (hj : j < qs.length), j ≤ i → (qs[j]).p.isVariadic = false) :
    ∃ hs : i < sc.length, shSplit (quote (sc[i]).value.toList) = some [(ws[i]).toList] := by
  obtain ⟨hs, he⟩ := evalParams_get hq hw h
    (fun j hj hji => hsing j hj (Nat.le_of_lt hji))
  rw [if_neg (by simp [hsing i hq (Nat.le_refl i)])] at he
  refine ⟨hs, ?_⟩
  rw [he]
  exact quote_one_word _

theorem channels_bind_what_C05_binds (qs : List NParam) (ws bound : List String) (sc : Scope)
    (pos : List String) (h : evalParams qs ws bound = some (sc, pos)) :
    bindArgs (qs.map (·.p)) ws bound = .ok (bound ++ sc.map (·.value)) :=
  (evalParams_scope h).2.2.2

/-- non-vacuity: `r $x *rest` called with three words, one of them a shell payload; a `.env` file
and an outer `export x` try to shadow the parameter -/
example :
    let qs : List NParam := [⟨"x", true, ⟨.singular, none⟩⟩, ⟨"rest", false, ⟨.star, none⟩⟩]
    let ws := ["'; touch canary; '", "a b", "$(c)"]
    (evalParams qs ws []).map (·.2) = some ws ∧
    (evalParams qs ws []).map (fun r => recipeEnv (fun _ => none) [("x", "dotenv")] false ["x"]
      [[⟨"x", "outer", true, false⟩]] r.1 "x") = some (some "'; touch canary; '") := by
  decide +kernel

end Just.Props.C07
