/-
C03 — reference, cycle and arity errors are rejected before anything runs.
Theorems about `Just.Analyzer` (variable walker, resolvers, arity checks).
-/
import Just.Model.Analyzer
import Just.Lemmas.Dfs
import Just.Lemmas.ParsedCalls
import Just.Lemmas.Define
namespace Just.Props.C03
open Just.Analyzer

/-! ### the walker visits every syntactic position -/

mutual
/-- `x` occurs as a variable at SOME position of `e` -/
inductive Occurs (x : String) : Expr → Prop where
  | var : Occurs x (.var x)
  | callArg {fn : String} {args : Exprs} : OccursAny x args → Occurs x (.call fn args)
  | concatL {l r : Expr} : Occurs x l → Occurs x (.concat l r)
  | concatR {l r : Expr} : Occurs x r → Occurs x (.concat l r)
  | joinLL {l r : Expr} : Occurs x l → Occurs x (.joinL l r)
  | joinLR {l r : Expr} : Occurs x r → Occurs x (.joinL l r)
  | joinR {r : Expr} : Occurs x r → Occurs x (.joinR r)
  | andL {l r : Expr} : Occurs x l → Occurs x (.and l r)
  | andR {l r : Expr} : Occurs x r → Occurs x (.and l r)
  | orL {l r : Expr} : Occurs x l → Occurs x (.or l r)
  | orR {l r : Expr} : Occurs x r → Occurs x (.or l r)
  | condLhs {a b t e : Expr} {op : CondOp} : Occurs x a → Occurs x (.cond a op b t e)
  | condRhs {a b t e : Expr} {op : CondOp} : Occurs x b → Occurs x (.cond a op b t e)
  | condThen {a b t e : Expr} {op : CondOp} : Occurs x t → Occurs x (.cond a op b t e)
  | condElse {a b t e : Expr} {op : CondOp} : Occurs x e → Occurs x (.cond a op b t e)
  | assertLhs {a b m : Expr} {op : CondOp} : Occurs x a → Occurs x (.assert a op b m)
  | assertRhs {a b m : Expr} {op : CondOp} : Occurs x b → Occurs x (.assert a op b m)
  | assertMsg {a b m : Expr} {op : CondOp} : Occurs x m → Occurs x (.assert a op b m)
  | group {e : Expr} : Occurs x e → Occurs x (.group e)
inductive OccursAny (x : String) : Exprs → Prop where
  | head {e : Expr} {es : Exprs} : Occurs x e → OccursAny x (.cons e es)
  | tail {e : Expr} {es : Exprs} : OccursAny x es → OccursAny x (.cons e es)
end

/- Induction on the derivation (the recursor of the mutual pair): whichever operand holds the occurrence, its variables
are among those of the whole expression. -/
theorem vars_of_occurs (x : String) : ∀ (e : Expr), Occurs x e → x ∈ e.vars := by
  intro e h
  induction h using Occurs.rec (motive_2 := fun es _ => x ∈ es.vars) with
  | _ => simp only [Expr.vars, Exprs.vars, List.mem_append, List.mem_singleton, *, true_or, or_true]

theorem varsAny_of_occurs (x : String) : ∀ (es : Exprs), OccursAny x es → x ∈ es.vars
  | .cons e _, .head h => List.mem_append_left _ (vars_of_occurs x e h)
  | .cons _ es, .tail h => List.mem_append_right _ (varsAny_of_occurs x es h)
termination_by structural es => es

theorem occurs_of_vars (x : String) (e : Expr) : x ∈ e.vars → Occurs x e := by
  induction e using Expr.rec (motive_2 := fun es => x ∈ es.vars → OccursAny x es) with
  | _ => grind [Expr.vars, Exprs.vars, Occurs, OccursAny]

theorem occursAny_of_vars (x : String) : ∀ (es : Exprs), x ∈ es.vars → OccursAny x es
  | .nil, h => (List.not_mem_nil h).elim
  | .cons e es, h => (List.mem_append.mp h).elim (.head ∘ occurs_of_vars x e) (.tail ∘ occursAny_of_vars x es)

theorem vars_toList (x : String) : ∀ (es : Exprs), x ∈ es.vars ↔ ∃ e ∈ es.toList, x ∈ e.vars
  | .nil => by simp [Exprs.vars, Exprs.toList]
  | .cons e es => by
    simp only [Exprs.vars, Exprs.toList, List.mem_append, vars_toList x es, List.mem_cons, exists_eq_or_imp]

/-- the stack machine yields the variables of the expressions on its stack, in its own order -/
theorem walk_vars (x : String) (st : List Expr) : x ∈ walk st ↔ x ∈ st.flatMap Expr.vars := by
  fun_induction walk st
  case case8 fn args st ih =>
    rw [ih, List.flatMap_append, List.flatMap_cons, Expr.vars, List.mem_append, List.mem_append, vars_toList,
      List.mem_flatMap]
    simp only [callOrder_perm]
  all_goals simp only [*, List.flatMap_cons, List.flatMap_nil, Expr.vars, List.mem_append, List.mem_cons,
    List.not_mem_nil, false_or, or_assoc, or_left_comm]

/-- **the walker is complete**: it reports a variable iff that variable occurs at some syntactic
position of the expression — any operand, any argument index of any function (including the
optional second argument of `env`), both sides of a condition, both branches, the assert message,
inside parentheses, at any depth. -/
theorem walk_complete (x : String) (e : Expr) : x ∈ walk [e] ↔ Occurs x e := by
  rw [walk_vars, List.flatMap_cons, List.flatMap_nil, List.append_nil]
  exact ⟨occurs_of_vars x e, vars_of_occurs x e⟩

/-! ### assignments: every reference is defined, and there is no cycle -/

/-- **assignments accepted ⇒ every variable at every position is defined and nothing is defined
in terms of itself**: there is a rank on variable names such that every variable occurring
anywhere in an assignment's expression is a built-in constant that no assignment redefines, or a defined variable of
strictly smaller rank (so: no undefined reference, no self reference, no cycle of any length - also not through a variable
that is named like a constant: `HEX := HEX` was accepted and overflowed the stack when evaluated, repaired in 6e60f2d). -/
theorem assignments_accept_sound (m : Module) (order : List String)
    (h : resolveAssignments m = .ok order) :
    ∃ rank : String → Nat, ∀ n e, m.assigns.lookup n = some e → ∀ x, Occurs x e →
      (isConst x = true ∧ m.assigns.lookup x = none) ∨ ((m.assigns.lookup x).isSome ∧ rank x < rank n) := by
  unfold resolveAssignments at h
  split at h <;> cases h
  obtain ⟨rank, hrank⟩ := Dfs.all_ranked (assignGraph m) _ _ _ ‹_›
  refine ⟨rank, fun n e hne x hx => ?_⟩
  obtain ⟨ss, hss, hall⟩ := hrank n (Dfs.lookup_isSome_mem _ _ (by rw [hne]; rfl))
  cases (show _ = some (walk [e]) by simp only [assignGraph, hne, Option.map_some]).symm.trans hss
  refine (hall x ((walk_complete x e).mpr hx)).imp (fun hk => ?_) fun h => ⟨?_, h.2⟩
  · simpa only [assignGraph, Bool.and_eq_true, Option.isNone_iff_eq_none] using hk
  · simpa only [assignGraph, Option.isSome_map] using h.1

/-- contrapositive, as the property states it: an undefined variable ANYWHERE in an assignment
is rejected -/
theorem undefined_in_assignment_rejected (m : Module) (n x : String) (e : Expr)
    (hne : m.assigns.lookup n = some e) (hx : Occurs x e) (hc : isConst x = false)
    (hu : m.assigns.lookup x = none) : ∃ err, resolveAssignments m = .error err := by
  cases h : resolveAssignments m with
  | error err => exact ⟨err, rfl⟩
  | ok order =>
    obtain ⟨rank, hr⟩ := assignments_accept_sound m order h
    rcases hr n e hne x hx with hk | ⟨hs, _⟩
    · rw [hc] at hk; cases hk.1
    · rw [hu] at hs; cases hs

/-- a variable defined in terms of itself (directly) is rejected - whatever it is called: before the repair 6e60f2d this
needed the hypothesis that the name is not that of a built-in constant, and `HEX := HEX` was the counterexample -/
theorem self_reference_rejected (m : Module) (n : String) (e : Expr)
    (hne : m.assigns.lookup n = some e) (hx : Occurs n e) :
    ∃ err, resolveAssignments m = .error err := by
  cases h : resolveAssignments m with
  | error err => exact ⟨err, rfl⟩
  | ok order =>
    obtain ⟨rank, hr⟩ := assignments_accept_sound m order h
    rcases hr n e hne n hx with hk | ⟨_, hlt⟩
    · rw [hne] at hk; cases hk.2
    · omega

/-! ### recipes: dependencies exist, and the dependency graph is acyclic -/

theorem find_mem_names (m : Module) (n : String) (r : Recipe) (h : findRecipe m n = some r) :
    n ∈ m.recipes.map Recipe.name := by
  unfold findRecipe at h
  exact List.mem_map.mpr ⟨r, List.mem_of_find?_eq_some h, by simpa using List.find?_some h⟩

/-- **recipes accepted ⇒ every dependency exists and no recipe depends on itself, however
indirectly**: a rank strictly decreases along every dependency edge (prior or subsequent) — this
is the `Acyclic` hypothesis of C01's theorems. -/
theorem recipes_accept_sound (m : Module) (order : List String)
    (h : resolveRecipes m = .ok order) :
    ∃ rank : String → Nat, ∀ n r, findRecipe m n = some r → ∀ d ∈ r.deps,
      (findRecipe m d.target).isSome ∧ rank d.target < rank n := by
  unfold resolveRecipes at h
  split at h <;> cases h
  obtain ⟨rank, hrank⟩ := Dfs.all_ranked (recipeGraph m) _ _ _ ‹_›
  refine ⟨rank, fun n r hnr d hd => ?_⟩
  obtain ⟨ss, hss, hall⟩ := hrank n (find_mem_names m n r hnr)
  cases (show _ = some (r.deps.map Dep.target) by simp only [recipeGraph, hnr, Option.map_some]).symm.trans hss
  refine (hall d.target (List.mem_map.mpr ⟨d, hd, rfl⟩)).elim nofun fun h => ⟨?_, h.2⟩
  simpa only [recipeGraph, Option.isSome_map] using h.1

/-! ### per-recipe scopes -/

theorem allDefined_iff (m : Module) (params : List String) (e : Expr) :
    allDefined m params e = true ↔ ∀ x, Occurs x e → defined m params x = true := by
  simp only [allDefined, List.all_eq_true, walk_complete]

/-- **a parameter default may only see EARLIER parameters** (plus variables and constants) -/
theorem defaults_scope (m : Module) : ∀ (ps : List Param) (earlier : List String),
    defaultsOk m ps earlier = true →
    ∀ i p d, ps[i]? = some p → p.default = some d → ∀ x, Occurs x d →
      defined m (earlier ++ (ps.take i).map Param.name) x = true := by
  intro ps earlier h
  fun_induction defaultsOk m ps earlier
  case case1 => intro i p d hi; cases hi
  case case2 q qs earlier ih =>
    intro i p d hi hd x hx
    simp only [Bool.and_eq_true] at h
    cases i with
    | zero =>
      cases Option.some.inj hi
      rw [hd] at h
      simpa using (allDefined_iff m earlier d).mp h.1 x hx
    | succ j => simpa [List.take_succ_cons, List.append_assoc] using ih h.2 j p d hi hd x hx

/-- **dependency arguments and interpolations see all parameters**; every variable at every
position of them is defined -/
theorem recipe_vars_sound (m : Module) (r : Recipe) (h : recipeVarsOk m r = true) :
    (∀ i p d, r.params[i]? = some p → p.default = some d → ∀ x, Occurs x d →
      defined m ((r.params.take i).map Param.name) x = true) ∧
    (∀ d ∈ r.deps, ∀ a ∈ d.args, ∀ x, Occurs x a → defined m (r.params.map Param.name) x = true) ∧
    (∀ l ∈ checkedLines m r, ∀ e ∈ l.interps, ∀ x, Occurs x e →
      defined m (r.params.map Param.name) x = true) := by
  simp only [recipeVarsOk, Bool.and_eq_true, List.all_eq_true] at h
  obtain ⟨⟨h1, h2⟩, h3⟩ := h
  exact ⟨fun i p d hi hd x hx => by simpa using defaults_scope m r.params [] h1 i p d hi hd x hx,
    fun d hd a ha => (allDefined_iff m _ a).mp (h2 d hd a ha), fun l hl e he => (allDefined_iff m _ e).mp (h3 l hl e he)⟩

/-! ### function calls -/

mutual
/-- a call somewhere in `e` is wrong: unknown function, or a number of arguments its arity class
does not accept -/
inductive BadCall : Expr → Prop where
  | here {fn : String} {args : Exprs} :
      (match functionClass fn with
        | some cls => classAccepts cls args.length
        | none => false) = false → BadCall (.call fn args)
  | callArg {fn : String} {args : Exprs} : BadCallAny args → BadCall (.call fn args)
  | concatL {l r : Expr} : BadCall l → BadCall (.concat l r)
  | concatR {l r : Expr} : BadCall r → BadCall (.concat l r)
  | joinLL {l r : Expr} : BadCall l → BadCall (.joinL l r)
  | joinLR {l r : Expr} : BadCall r → BadCall (.joinL l r)
  | joinR {r : Expr} : BadCall r → BadCall (.joinR r)
  | andL {l r : Expr} : BadCall l → BadCall (.and l r)
  | andR {l r : Expr} : BadCall r → BadCall (.and l r)
  | orL {l r : Expr} : BadCall l → BadCall (.or l r)
  | orR {l r : Expr} : BadCall r → BadCall (.or l r)
  | condLhs {a b t e : Expr} {op : CondOp} : BadCall a → BadCall (.cond a op b t e)
  | condRhs {a b t e : Expr} {op : CondOp} : BadCall b → BadCall (.cond a op b t e)
  | condThen {a b t e : Expr} {op : CondOp} : BadCall t → BadCall (.cond a op b t e)
  | condElse {a b t e : Expr} {op : CondOp} : BadCall e → BadCall (.cond a op b t e)
  | assertLhs {a b m : Expr} {op : CondOp} : BadCall a → BadCall (.assert a op b m)
  | assertRhs {a b m : Expr} {op : CondOp} : BadCall b → BadCall (.assert a op b m)
  | assertMsg {a b m : Expr} {op : CondOp} : BadCall m → BadCall (.assert a op b m)
  | group {e : Expr} : BadCall e → BadCall (.group e)
inductive BadCallAny : Exprs → Prop where
  | head {e : Expr} {es : Exprs} : BadCall e → BadCallAny (.cons e es)
  | tail {e : Expr} {es : Exprs} : BadCallAny es → BadCallAny (.cons e es)
end

/-- **a wrong call at any position is rejected** -/
theorem callsOk_false_of_bad : ∀ (e : Expr), BadCall e → e.callsOk = false := by
  intro e h
  induction h using BadCall.rec (motive_2 := fun es _ => es.callsOk = false) with
  | @here fn args h =>
    rw [Expr.callsOk]
    cases hfc : functionClass fn with
    | none => rfl
    | some cls => rw [hfc] at h; simp only [h, Bool.false_and]
  -- the operand with the wrong call fails the check, hence so does the conjunction
  | _ => simp only [Expr.callsOk, Exprs.callsOk, *, Bool.false_and, Bool.and_false]

theorem callsOkAny_false_of_bad : ∀ (es : Exprs), BadCallAny es → es.callsOk = false
  | .cons e _, .head h => by rw [Exprs.callsOk, callsOk_false_of_bad e h, Bool.false_and]
  | .cons _ es, .tail h => by rw [Exprs.callsOk, callsOkAny_false_of_bad es h, Bool.and_false]
termination_by structural es => es

/-- the functions the README documents, each with its documented arity class -/
def documentedFunctions : List (String × String) := [
  ("absolute_path", "Unary"), ("append", "Binary"), ("arch", "Nullary"), ("blake3", "Unary"),
  ("blake3_file", "Unary"), ("cache_directory", "Nullary"), ("canonicalize", "Unary"),
  ("capitalize", "Unary"), ("choose", "Binary"), ("clean", "Unary"), ("config_directory", "Nullary"),
  ("config_local_directory", "Nullary"), ("data_directory", "Nullary"),
  ("data_local_directory", "Nullary"), ("datetime", "Unary"), ("datetime_utc", "Unary"),
  ("encode_uri_component", "Unary"), ("env", "UnaryOpt"), ("env_var", "Unary"),
  ("env_var_or_default", "Binary"), ("error", "Unary"), ("executable_directory", "Nullary"),
  ("extension", "Unary"), ("file_name", "Unary"), ("file_stem", "Unary"),
  ("home_directory", "Nullary"), ("invocation_directory", "Nullary"),
  ("invocation_directory_native", "Nullary"), ("is_dependency", "Nullary"), ("join", "BinaryPlus"),
  ("just_executable", "Nullary"), ("just_pid", "Nullary"), ("justfile", "Nullary"),
  ("justfile_directory", "Nullary"), ("kebabcase", "Unary"), ("lowercamelcase", "Unary"),
  ("lowercase", "Unary"), ("module_directory", "Nullary"), ("module_file", "Nullary"),
  ("num_cpus", "Nullary"), ("os", "Nullary"), ("os_family", "Nullary"),
  ("parent_directory", "Unary"), ("path_exists", "Unary"), ("prepend", "Binary"),
  ("quote", "Unary"), ("read", "Unary"), ("replace", "Ternary"), ("replace_regex", "Ternary"),
  ("require", "Unary"), ("semver_matches", "Binary"), ("sha256", "Unary"), ("sha256_file", "Unary"),
  ("shell", "UnaryPlus"), ("shoutykebabcase", "Unary"), ("shoutysnakecase", "Unary"),
  ("snakecase", "Unary"), ("source_directory", "Nullary"), ("source_file", "Nullary"),
  ("style", "Unary"), ("titlecase", "Unary"), ("trim", "Unary"), ("trim_end", "Unary"),
  ("trim_end_match", "Binary"), ("trim_end_matches", "Binary"), ("trim_start", "Unary"),
  ("trim_start_match", "Binary"), ("trim_start_matches", "Binary"), ("uppercamelcase", "Unary"),
  ("uppercase", "Unary"), ("uuid", "Nullary"), ("which", "Unary"), ("without_extension", "Unary")]

/-- every function documented in the README is in the table regenerated from src/function.rs with
its documented arity class (removing or re-typing one breaks this obligation; adding a function
does not) -/
theorem documented_functions_present :
    documentedFunctions.all (fun e => Generated.functionTable.contains e) = true := by
  decide +kernel

/-! ### `ignore-comments`: what the resolver skips and what the evaluator visits -/

theorem checkLoop_eq_evalLoop (ignore : Bool) (ls : List Line) (c : Bool) :
    checkLoop ignore c ls = evalLoop ignore c ls := by
  fun_induction checkLoop ignore c ls <;> simp_all [evalLoop]

theorem checkLoop_false (ls : List Line) (c : Bool) : checkLoop false c ls = ls := by
  fun_induction checkLoop false c ls <;> simp_all

/-- **every line the evaluator will evaluate has been checked by the resolver** (and only those),
for linewise and script recipes, with and without `ignore-comments`, with continuations — so an
accepted recipe cannot meet an undefined variable at run time (holds for the repaired resolver). -/
theorem checked_eq_evaluated (m : Module) (r : Recipe) : checkedLines m r = evaluatedLines m r := by
  unfold checkedLines evaluatedLines
  cases hs : r.script
  · simp [checkLoop_eq_evalLoop]
  · simp only [Bool.not_true, Bool.and_false, if_true]
    exact checkLoop_false _ _

/-- **the defect that was repaired** (`fix:` commit): the pinned resolver skipped EVERY
comment-looking line under `ignore-comments`, although `run_script` evaluates all lines and
`run_linewise` evaluates a comment-looking line that continues a command — an undefined variable
there was accepted and failed at run time with an internal error (witnesses for both cases). -/
theorem old_resolver_gap :
    let script : Recipe := ⟨"r", [], [], [⟨[.var "undefined"], true, false⟩], true⟩
    let cont : Recipe := ⟨"r", [], [], [⟨[], false, true⟩, ⟨[.var "undefined"], true, false⟩], false⟩
    let ms : Module := ⟨[], [script], true⟩
    let mc : Module := ⟨[], [cont], true⟩
    (oldCheckedLines ms script).length = 0 ∧ (evaluatedLines ms script).length = 1 ∧
      (oldCheckedLines mc cont).length = 1 ∧ (evaluatedLines mc cont).length = 2 := by
  decide +kernel

/-- without `ignore-comments` every line is checked -/
theorem all_lines_checked (m : Module) (r : Recipe) (h : m.ignoreComments = false) :
    checkedLines m r = r.body := by
  unfold checkedLines
  simp [h, checkLoop_false]

/-! ### the resolvers' fuel is an artefact of the model -/

/-- the fuel of the assignment resolver (number of assignments + 1) is never exhausted -/
theorem resolveAssignments_no_fuel (m : Module) : resolveAssignments m ≠ .error .fuel := by
  intro h
  unfold resolveAssignments at h
  split at h <;> cases h
  exact Dfs.all_no_fuel (assignGraph m) (m.assigns.map Prod.fst)
    (fun s hs => Dfs.lookup_isSome_mem m.assigns s (by simpa only [assignGraph, Option.isSome_map] using hs)) (m.assigns.length + 1) (by simp) _ _ ‹_›

/-- the fuel of the recipe resolver (number of recipes + 1) is never exhausted -/
theorem resolveRecipes_no_fuel (m : Module) : resolveRecipes m ≠ .error .fuel := by
  intro h
  unfold resolveRecipes at h
  split at h <;> cases h
  refine Dfs.all_no_fuel (recipeGraph m) (m.recipes.map Recipe.name) (fun s hs => ?_) (m.recipes.length + 1) (by simp) _ _ ‹_›
  obtain ⟨r, hr⟩ := Option.isSome_iff_exists.mp (by simpa only [recipeGraph, Option.isSome_map] using hs : (findRecipe m s).isSome)
  exact find_mem_names m s r hr

/-- **A call of an unknown function or with a wrong number of arguments never leaves the parser**: `parse_value` runs
`Thunk::resolve` on every call, so no expression `parse_expression` returns contains a `BadCall` - whatever the tokens, at
any depth, in any position.  (Links the parser model of C10 with the call check of this model: `fnOk` = `callsOk`.) -/
theorem bad_call_never_parses (f : Nat) (ts : List Syntax.Tk) (e : Expr) (r : List Syntax.Tk)
    (h : Syntax.parseExpression f ts = some (e, r)) : ¬ BadCall e := by
  intro hb
  have h1 := Syntax.parsed_callsOk f ts e r h
  rw [callsOk_false_of_bad e hb] at h1
  cases h1

/-! ### a name defined twice -/
open Just.Define in
/-- **Duplicate definitions are rejected exactly when the statement says so**: a module passes the
duplicate checks iff no two of its aliases, submodules and recipes share a name — except two
*recipes* under `allow-duplicate-recipes` — and no two assignments share a name unless
`allow-duplicate-variables` is set.  In whatever order the items are written and met (the analyzer
defines aliases and modules first and recipes afterwards): the verdict depends on the set of
definitions only. -/
theorem duplicates_rejected_iff (allowRecipes allowVars : Bool) (items : List Def) (vars : List String) :
    accepts allowRecipes allowVars items vars = true ↔
      (items.Pairwise (Compatible allowRecipes) ∧ (allowVars = true ∨ vars.Nodup)) :=
  accepts_iff allowRecipes allowVars items vars

open Just.Define in
/-- in particular `allow-duplicate-recipes` never lets a recipe take the name of an alias or of a
submodule (nor the other way round), wherever the two stand -/
theorem mixed_kinds_always_rejected (allowRecipes allowVars : Bool) (items : List Def) (vars : List String)
    (a b : Def) (ha : a ∈ items) (hb : b ∈ items) (hn : a.name = b.name) (hk : a.kind ≠ b.kind) :
    accepts allowRecipes allowVars items vars = false := by
  refine Bool.eq_false_iff.mpr fun h => ?_
  have hp := ((accepts_iff allowRecipes allowVars items vars).mp h).1
  -- compatibility is symmetric, so it holds of any two different members, whichever stands first
  have hR : items.Pairwise fun x y => x ≠ y → Compatible allowRecipes x y :=
    hp.imp fun {a b} h (_ : a ≠ b) => h
  have hc := hR.forall_of_forall_of_flip (fun _ _ hne => absurd rfl hne) (hp.imp fun {a b} h (_ : b ≠ a) => h.symm) ha hb
    (fun e => hk (e ▸ rfl)) hn
  exact hk (hc.2.1.trans hc.2.2.symm)

open Just.Define in
/-- non-vacuity: two recipes `build` pass under the setting; a recipe and an alias `build` never -/
example : accepts true false [⟨"build", .recipe⟩, ⟨"x", .alias⟩, ⟨"build", .recipe⟩] ["v"] = true ∧
    accepts true true [⟨"build", .recipe⟩, ⟨"build", .alias⟩] [] = false ∧
    accepts true true [⟨"build", .alias⟩, ⟨"build", .recipe⟩] [] = false ∧
    accepts false true [⟨"m", .module⟩, ⟨"m", .recipe⟩] [] = false ∧
    accepts true false [] ["v", "v"] = false := by decide +kernel

end Just.Props.C03
