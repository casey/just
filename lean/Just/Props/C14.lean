/-
C14 — echoing, quieting and dry-run follow the documented truth table.
Theorems about `Just.Run` (model of src/recipe.rs run_linewise / run_script); the last section, on backticks under
`--dry-run`, is about `Just.Eval` (model of src/evaluator.rs).
-/
import Just.Lemmas.RunSpec
import Just.Lemmas.RunQuiet
import Just.Lemmas.RunDry
import Just.Lemmas.EvalDry
namespace Just.Props.C14
open Just.Run

/-- The documented rule: a line is echoed iff `--dry-run` or `--verbose` (without `--quiet`)
is given, or none of the quieting mechanisms applies: `--quiet`, `set quiet` (unless the recipe is
`[no-quiet]`), exactly one of the line's `@` and the recipe's `@`. -/
def specEchoes (dry verbose quietFlag setQuiet noQuiet recipeAt lineAt : Bool) : Bool :=
  if dry then true
  else if quietFlag then false
  else if verbose then true
  else if setQuiet && !noQuiet then false
  else lineAt == recipeAt

/-- The echo decision of the model equals the documented truth table on every combination of
line prefix, recipe prefix, `set quiet`, `[no-quiet]`, `--quiet`, `--verbose`, `--dry-run`. -/
theorem echo_table_eq_spec (cfg : Cfg) (r : Recipe) (l : Line) :
    echoes cfg r l =
      specEchoes cfg.dryRun cfg.verbose (cfg.quiet && !cfg.dryRun) cfg.setQuiet r.noQuiet r.quiet l.quiet := by
  unfold echoes specEchoes Cfg.loquacious
  -- in the order of the rule: `--dry-run`, then `--quiet`, then `--verbose` decide alone
  cases cfg.dryRun
  · cases cfg.quiet
    · cases cfg.verbose
      · cases cfg.setQuiet <;> cases r.noQuiet <;> cases r.quiet <;> cases l.quiet <;> rfl
      · simp
    · simp
  · simp

/-- The `-` prefix never influences echoing. -/
theorem echo_ignores_infallible (cfg : Cfg) (r : Recipe) (l : Line) (b : Bool) :
    echoes cfg r { l with infallible := b } = echoes cfg r l := rfl

/-- The echoed text is the command the shell receives: a real run emits, for one logical line,
exactly `[echo cmd]?` followed by `spawn cmd`. -/
theorem echo_is_command (cfg : Cfg) (env : Env) (ri : Nat) (r : Recipe) (given : Args) (l : Line)
    (cmd : String) (h : cfg.dryRun = false) :
    (runCmd cfg env ri r given l cmd).1 =
      (if echoes cfg r l then [Ev.echo cmd] else []) ++ [Ev.spawn ri given cmd] := by
  unfold runCmd
  simp only [h]
  cases (env.status cmd).toErr <;> simp

/-- Under `--dry-run` a logical line is printed and nothing is spawned. -/
theorem dry_run_line (cfg : Cfg) (env : Env) (ri : Nat) (r : Recipe) (given : Args) (l : Line)
    (cmd : String) (h : cfg.dryRun = true) :
    runCmd cfg env ri r given l cmd = ([Ev.echo cmd], .ok ()) := by
  unfold runCmd echoes
  simp [h]

def isExec : Ev → Bool
  | .bt _ => true
  | .spawn _ _ _ => true
  | .script _ _ _ => true
  | _ => false

def execs (es : List Ev) : List Ev := es.filter isExec

@[simp] theorem execs_nil : execs [] = [] := rfl
@[simp] theorem execs_body (r : Nat) (a : Args) (b : Bool) : execs [Ev.body r a b] = [] := rfl
@[simp] theorem execs_prompt (r : Nat) : execs [Ev.prompt r] = [] := rfl
@[simp] theorem execs_cons_body (r : Nat) (a : Args) (b : Bool) (es : List Ev) :
    execs (Ev.body r a b :: es) = execs es := rfl
@[simp] theorem execs_append (a b : List Ev) : execs (a ++ b) = execs a ++ execs b := by
  simp [execs]

theorem execs_eq_nil {es : List Ev} : execs es = [] ↔ ∀ ev ∈ es, isExec ev = false := by
  simp [execs, List.filter_eq_nil_iff]

theorem execs_andThen {α β : Type} {x : Res α} {f : List Ev → α → Res β} (hx : execs x.1 = [])
    (hf : ∀ e a, execs (f e a).1 = []) : execs (andThen x f).1 = [] := by
  obtain ⟨e1, e | a⟩ := x
  · exact hx
  · rw [andThen_ok, execs_append, show execs e1 = [] from hx, hf e1 a]; rfl

section
variable {P : Prog} {cfg : Cfg} {env : Env} (h : cfg.dryRun = true)
include h

theorem LeafRun.dry_execs {α : Type} {x : Res α} (hx : LeafRun cfg env x) : execs x.1 = [] :=
  execs_eq_nil.mpr fun ev hev => by obtain ⟨t, rfl⟩ := hx.dry h ev hev; rfl

/-- `--dry-run` executes nothing: no recipe command, script or backtick is spawned, for every
program, every invocation, every fuel, every memo state and every behaviour of the children. -/
theorem dry_run_executes_nothing (fuel : Nat) (sub : Bool) (ri : Nat) (given : Args) (ran : Ran) (k : Nat) :
    execs (runRecipe P cfg env fuel sub ri given ran k).1 = [] :=
  execs_eq_nil.mpr <| Runs.forall_events (p := fun _ ev => isExec ev = false)
    (fun _ _ _ hd => by obtain ⟨t, rfl⟩ := hd h; rfl) (fun _ _ _ _ _ _ => rfl) (fun _ _ _ _ _ _ => rfl)
    (fun _ ih => ih) (runRecipe_sound P cfg env fuel sub ri given ran k _ _ rfl)

theorem runInvs_dry (fuel : Nat) (invs : List Key) : ∀ ran k, execs (runInvs P cfg env fuel invs ran k).1 = [] := by
  induction invs with
  | nil => intro ran k; rfl
  | cons inv invs ih =>
    intro ran k
    rw [runInvs_cons]
    exact execs_andThen (dry_run_executes_nothing h ..) fun _ _ => ih ..

end

/-- the whole `just --dry-run …` run spawns nothing -/
theorem dry_run_main_executes_nothing (P : Prog) (cfg : Cfg) (env : Env) (h : cfg.dryRun = true)
    (invs : List Key) : execs (runMain P cfg env invs).1 = [] := by
  rw [runMain_eq]
  exact execs_andThen (LeafRun.dry_execs h (runAssigns_leafRun P.assigns)) fun _ _ => runInvs_dry h ..

/-- Non-vacuity: a dry run of a concrete recipe body prints its commands and spawns nothing,
although every command would fail. -/
example :
    let r : Recipe := { params := [], priors := [], subs := [], body := [] }
    runLines { dryRun := true } ⟨fun _ => .code 1, fun _ => "", fun _ => true⟩ 0 r [] []
        [⟨true, false, [.lit "a"]⟩, ⟨false, true, [.lit "b", .bt "c"]⟩]
      = ([.echo "a", .echo "b`c`"], .ok ()) := by
  simp [runLines, evalList, evalA, runCmd, echoes, concat, Cfg.loquacious]

/-- **The echo switches change nothing but the echo.**  Two configurations that agree on `--dry-run`, `--yes`
and `--no-deps` and differ arbitrarily in `--quiet`, `--verbose` and `set quiet`: for every program, every
environment (command statuses, backtick outputs, confirmation answers) and every invocation list the whole run
has the same exit status and exactly the same sequence of events other than echoed lines - the same processes
with the same command text, the same backticks, the same confirmation prompts, the same recipe bodies in the
same order.  (An instance of the simulation `runMain_sim` of Lemmas/RunSim.lean, with the lemmas of Lemmas/RunQuiet.lean.) -/
theorem echo_switches_change_only_echo (P : Prog) (cfg cfg2 : Cfg) (env : Env) (invs : List Key)
    (hd : cfg2.dryRun = cfg.dryRun) (hy : cfg2.yes = cfg.yes) (hn : cfg2.noDeps = cfg.noDeps) :
    (runMain P cfg2 env invs).2 = (runMain P cfg env invs).2
    ∧ noEcho (runMain P cfg2 env invs).1 = noEcho (runMain P cfg env invs).1 :=
  have h : SameButEcho cfg cfg2 := ⟨hd, hy, hn⟩
  have hA : ∀ a, SimA SameExec cfg cfg2 env a := fun a ps => .of_eq (evalA_same h env ps a)
  runMain_sim sameExec (fun _ _ => rfl) hy hn
    (fun r _ => ⟨fun d _ => hA d, fun _ _ a _ => hA a, fun _ _ a _ => hA a, fun _ _ a _ => hA a,
      (runCmd_rel h env · r), (scriptTail_rel h env · r)⟩)
    (.of_eq (runAssigns_same h ..)) invs

theorem quiet_changes_no_execution (P : Prog) (cfg : Cfg) (env : Env) (invs : List Key) :
    (runMain P { cfg with quiet := true } env invs).2 = (runMain P cfg env invs).2
    ∧ noEcho (runMain P { cfg with quiet := true } env invs).1 = noEcho (runMain P cfg env invs).1 :=
  echo_switches_change_only_echo P cfg { cfg with quiet := true } env invs rfl rfl rfl

/-- **What `--dry-run` prints is what a real run executes.**  The same command line with and without `--dry-run`
(`DryOf`), a program whose recipes contain no backtick (a dry run shows a backtick as written, so values - and with
them memo keys - may differ otherwise), children that all succeed, any confirmation answers: the two runs end with the
same exit status, and the lines the dry run echoes, one after the other with their line ends (`dryText`), are exactly
the texts of the commands and script files the real run starts, in the same order (`realText`) - for every program,
every recipe graph, every command line.  (Another instance of `runMain_sim`, with the lemmas of Lemmas/RunDry.lean.) -/
theorem dry_run_matches_real (P : Prog) (cfgR cfgD : Cfg) (env : Env) (invs : List Key) (h : DryOf cfgR cfgD)
    (hok : ∀ c, env.status c = .ok) (hP : ∀ r ∈ P.recipes, r.BtFree) :
    (runMain P cfgD env invs).2 = (runMain P cfgR env invs).2
    ∧ dryText (runMain P cfgD env invs).1 = realText (runMain P cfgR env invs).1 :=
  have hm := runMain_sim shows (fun ev hev => match ev, hev with | .prompt _, _ => ⟨rfl, rfl⟩ | .body _ _ _, _ => ⟨rfl, rfl⟩)
    h.yes h.noDeps
    (fun r hr => ⟨fun d hd => evalA_btFree env d ((hP r hr).params d hd),
      fun d hd a ha => evalA_btFree env a ((hP r hr).priors d hd a ha),
      fun d hd a ha => evalA_btFree env a ((hP r hr).subs d hd a ha),
      fun l hl a ha => evalA_btFree env a ((hP r hr).body l hl a ha),
      (runCmd_rel2 h hok · r), (scriptTail_rel2 h hok · r)⟩)
    (runAssigns_rel2 h hok P.assigns) invs
  ⟨hm.1, hm.2.1⟩

/-- non-vacuity: the hypotheses are satisfiable and the texts are not empty -/
example :
    let r : Recipe := { params := [], priors := [], subs := [], body := [⟨false, false, [.lit "echo a"]⟩, ⟨true, true, [.lit "b"]⟩] }
    let P : Prog := ⟨["date"], [r]⟩
    let env : Env := ⟨fun _ => .ok, fun _ => "", fun _ => true⟩
    dryText (runMain P { dryRun := true } env [(0, [])]).1 = "echo a\nb\n"
      ∧ realText (runMain P {} env [(0, [])]).1 = "echo a\nb\n" := by
  simp [runMain, runAssigns, runInvs, runRecipe, runDeps, bindParams, runBody, runLines, evalList, evalA, runCmd, echoes, concat,
    Cfg.loquacious, dryText, realText, Status.toErr, countPrompts]

example : DryOf {} { dryRun := true } := ⟨rfl, rfl, rfl, rfl, rfl⟩

/-- `noEcho`, through which `echo_switches_change_only_echo` compares two runs, removes the echoed lines and nothing
else: every other event survives, in order -/
theorem noEcho_keeps_everything_else (es : List Ev) :
    noEcho es = es.filter (fun e => match e with | .echo _ => false | _ => true) := by
  induction es with
  | nil => rfl
  | cons e es ih => cases e <;> simp [noEcho, ih]

/-! ### `--dry-run` starts no process for a backtick, wherever the backtick stands

The theorems above are about the Run model, whose expressions are literals, parameters, concatenations and
backticks.  This one is about the full expression language (`Just.Eval`, the model of src/evaluator.rs): every
constructor, every child position, every depth, assignments evaluated on the way included. -/
section DryRunBackticks
open Just.Eval

/-- **under `--dry-run` no backtick is executed**: for every expression without a `shell()` call — whatever it is made
of (`+`, `/`, `&&`, `||`, `if`/`else if` with any comparison, `assert`, function calls, groups, variables whose
assignments are evaluated on demand), whatever the state, the fuel and the enclosing scopes — evaluating it adds no
started process to the log.  A backtick as the operand of a comparison is a position like any other. -/
theorem dry_run_starts_no_backtick (ctx : Ctx) (hd : ctx.dryRun = true)
    (assigns : Option (List (String × Expr))) (ht : tableNoShell assigns) (fuel : Nat) (e : Expr) (st : St)
    (he : noShell e = true) :
    started (evalExpr ctx assigns fuel e st).1.log = started st.log :=
  (dryAt ctx hd assigns ht fuel).1 e st he

/-- the same for one assignment, from any state: a table evaluated one by one (`--dry-run --evaluate`, the assignments a
recipe needs) is a chain of such steps -/
theorem dry_run_assignment_starts_no_backtick (ctx : Ctx) (hd : ctx.dryRun = true)
    (assigns : Option (List (String × Expr))) (ht : tableNoShell assigns) (fuel : Nat) (n : String) (e : Expr) (st : St)
    (he : noShell e = true) :
    started (evalAssignment ctx assigns fuel n e st).1.log = started st.log :=
  (dryAt ctx hd assigns ht fuel).2.2 n e st he

/-- the hypothesis `noShell` is needed and the real run differs: `shell()` does run under `--dry-run` (recorded
observation), and without `--dry-run` the backtick of the same expression is started -/
example :
    let e := Expr.cond (.backtick "c") .eq (.str "k") (.str "t") (.str "e")
    let dry : Ctx := { bt := fun _ => some "k", envVar := fun _ => none, dryRun := true, parent := fun _ => none }
    let real : Ctx := { dry with dryRun := false }
    started (evalExpr dry none 5 e ⟨[], []⟩).1.log = [] ∧
    started (evalExpr real none 5 e ⟨[], []⟩).1.log = ["c"] ∧
    started (evalExpr dry none 5 (.call "shell" (.cons (.str "c") .nil)) ⟨[], []⟩).1.log = ["c"] := by
  simp [evalExpr, evalExprs, started, evalCondOp]

end DryRunBackticks

end Just.Props.C14
