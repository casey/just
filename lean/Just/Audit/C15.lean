import Just.Props.C15
open Just.Props.C15
#print axioms load_chains_nodup
#print axioms chain_bounded
#print axioms cycle_reported_import
#print axioms cycle_reported_module
#print axioms optional_missing_ignored
#print axioms missing_is_error
#print axioms shallower_wins
#print axioms modules_isolated
#print axioms import_contributes
#print axioms loader_terminates
#print axioms path_spelling_irrelevant
#print axioms loaded_chains_nodup
#print axioms insertDef_mem
#print axioms insertDef_inv
#print axioms dedup_inv
#print axioms recipesOf_file
#print axioms analyzeModule_recipes
