import Just.Props.C20
open Just.Props.C20
#print axioms ordered_dump_independent_of_iteration_order
#print axioms hash_dump_depends_on_iteration_order
#print axioms table_independent_of_definition_order
#print axioms table_sorted_and_complete
#print axioms duplicate_verdict_independent_of_order
#print axioms suggestion_independent_of_definition_order
#print axioms suggestion_is_nearest
#print axioms suggestion_depends_on_candidate_order
#print axioms pickNearest_some
#print axioms no_suggestion_iff
#print axioms suggest_cases
