import Just.Props.C17
open Just.Props.C17
#print axioms listed_iff_public
#print axioms views_agree
#print axioms unsorted_same_set
#print axioms choose_candidates
#print axioms private_still_runnable
#print axioms show_is_run_target
#print axioms old_show_disagrees
#print axioms doc_displayed_is_declared
#print axioms entries_are_declared
#print axioms alias_annotation_iff
#print axioms mem_sortByOffset
#print axioms groups_listed_iff
#print axioms groups_listed_once
#print axioms own_before_imported
#print axioms importer_before_imported
#print axioms same_file_in_text_order
#print axioms earlier_import_first
#print axioms mem_unsortedOrder
#print axioms length_unsortedOrder
#print axioms groups_listed_in_name_order
#print axioms unsorted_lists_in_key_order
