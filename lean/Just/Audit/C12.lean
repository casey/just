import Just.Props.C12
open Just.C12
#print axioms token_positions
#print axioms error_position
#print axioms tokens_tile
#print axioms context_points
#print axioms context_multiline
#print axioms context_always
#print axioms context_end_of_file
#print axioms located_of_spans
#print axioms tokenize_ok
#print axioms tokenize_err
#print axioms no_line_is_end_of_file
#print axioms shown_name_identifies_file
#print axioms shown_relative
