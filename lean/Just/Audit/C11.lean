import Just.Props.C11
open Just.C11
#print axioms lexer_terminates
#print axioms main_loop_progress
#print axioms step_never_grows
#print axioms lexer_error_never_invalid_line
#print axioms lexer_asserts_hold
#print axioms main_loop_idle
#print axioms lexer_no_internal_error
#print axioms lexeme_slice_valid
#print axioms unindent_slice_valid
#print axioms unindent_cuts_blanks_only
#print axioms sigil_slice_valid
#print axioms cook_unwrap_safe
#print axioms cook_literal_unwrap_safe
#print axioms parser_loop_progress
#print axioms parser_loop_bounded
#print axioms parser_needs_no_fuel
#print axioms expression_parser_needs_no_fuel
#print axioms startsWith_iff
#print axioms unescape_sigil
