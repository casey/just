import Just.Props.C13
open Just.Props.C13
#print axioms never_exit_with_child
#print axioms no_spawn_after_caught
#print axioms exits_when_child_ends
#print axioms exit_code
#print axioms idle_exits_at_once
#print axioms first_signal_kept
#print axioms sigterm_forwarded
#print axioms unrecorded_signal_is_forgotten
#print axioms recorded_signal_stops
#print axioms signals_match_source
#print axioms afterChild_running
#print axioms step_exit_inv
#print axioms afterChild_doomed
#print axioms afterChild_spawned
#print axioms step_doomed
#print axioms run_doomed
#print axioms afterChild_frame
#print axioms run_invariant
