import Just.Props.C04
open Just.Props.C04
#print axioms lazy_conditional_true
#print axioms lazy_conditional_false
#print axioms lazy_and
#print axioms and_nonempty
#print axioms lazy_or
#print axioms or_empty
#print axioms assert_message_lazy
#print axioms dry_run_backtick
#print axioms concat_value
#print axioms override_irrelevant
#print axioms override_skips_expression
#print axioms own_assignment_first
#print axioms each_assignment_once
#print axioms clean_idempotent
#print axioms clean_result
#print axioms stem_dot_extension
#print axioms stem_is_name_without_extension
#print axioms without_extension_and_join
#print axioms scanners_agree
#print axioms encode_uri_component_roundtrip
#print axioms lookup_cons_ne_none
#print axioms evalAssignment_bound
#print axioms agree_bind
#print axioms evalAll_setExpr
#print axioms setExpr_lookup
#print axioms setExpr_lookup_ne
#print axioms setExpr_lookup_isSome
#print axioms lookup_reverse_ne_none
#print axioms join_absolute_replaces
#print axioms clean_text_idempotent
#print axioms absolute_path_is_absolute
#print axioms absolute_path_of_absolute
#print axioms absolute_path_idempotent
#print axioms case_words
#print axioms kebabcase_alphabet
#print axioms kebabcase_keeps_letters_and_digits
#print axioms kebabcase_idempotent
#print axioms snakecase_idempotent
#print axioms shouty_is_uppercase_of_lower_style
#print axioms shoutysnakecase_is_uppercase_of_snakecase
#print axioms shoutykebabcase_is_uppercase_of_kebabcase
#print axioms trim_start_matches_spec
#print axioms trim_end_matches_spec
#print axioms trim_start_spec
#print axioms upperCamel_keeps_letters_and_digits
