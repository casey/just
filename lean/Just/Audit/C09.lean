import Just.Props.C09
open Just.Props.C09
#print axioms recipe_cwd_table
#print axioms absolute_attribute_wins
#print axioms relative_attribute
#print axioms no_cd_is_invocation_dir
#print axioms backtick_ignores_attribute_and_no_cd
#print axioms module_dir_of_chain
#print axioms imports_inherit_importer
#print axioms working_directory_flag_root_only
#print axioms directory_functions_constant
#print axioms source_directory_last
#print axioms search_clean_normalises
#print axioms moduleDirOf_append
