import Just.Props.C14
open Just.Props.C14
#print axioms echo_table_eq_spec
#print axioms echo_ignores_infallible
#print axioms echo_is_command
#print axioms dry_run_line
#print axioms dry_run_executes_nothing
#print axioms dry_run_main_executes_nothing
#print axioms echo_switches_change_only_echo
#print axioms quiet_changes_no_execution
#print axioms noEcho_keeps_everything_else
#print axioms dry_run_matches_real
#print axioms runInvs_dry
#print axioms dry_run_starts_no_backtick
#print axioms dry_run_assignment_starts_no_backtick
#print axioms execs_eq_nil
#print axioms execs_andThen
#print axioms LeafRun.dry_execs
