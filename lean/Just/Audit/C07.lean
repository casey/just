import Just.Props.C07
open Just.Props.C07
#print axioms quote_segment
#print axioms quote_one_word
#print axioms quote_injection_free
#print axioms positional_channel_linewise
#print axioms positional_channel_index
#print axioms positional_channel_script
#print axioms positional_off
#print axioms export_channel_singular
#print axioms export_channel_variadic
#print axioms channels_bind_what_C05_binds
#print axioms shRun_append
#print axioms sq_body
#print axioms stepC_shape
#print axioms shRun_shape
#print axioms finish_shape
#print axioms quote_channel_singular
#print axioms map_bind_congr
#print axioms shRun_cons
#print axioms shSplit_eq
#print axioms recipeEnv_param
#print axioms recipeEnv_binding
