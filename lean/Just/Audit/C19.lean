import Just.Props.C19
open Just.Props.C19
#print axioms every_use_recorded
#print axioms refused_iff
#print axioms stable_never_gated
#print axioms opt_in_admits
#print axioms set_unstable_is_per_module
#print axioms summary_exempt
#print axioms fmt_gated
#print axioms documented_falsy_are_falsy
#print axioms falsy_set_differs_from_readme
#print axioms fallback_every_level_gated
#print axioms fallback_parent_refused
#print axioms fallback_stable_never_refused
#print axioms gated_features_are_documented
#print axioms append_ne_nil_iff
#print axioms features_of_usesAny
#print axioms usesAny_of_features
#print axioms allowed_iff
#print axioms allowedAll_iff
#print axioms usesAny_iff
