import Just.Props.C02
open Just.Props.C02
#print axioms exit_code_table
#print axioms exit_not_confirmed
#print axioms failstop
#print axioms main_failstop
#print axioms infallible_never_stops
#print axioms fallible_stops
#print axioms unconfirmed_runs_nothing
#print axioms yes_never_prompts
#print axioms EndsFailed.prepend
#print axioms StopsAt.prepend
#print axioms failstop_all
#print axioms runInvs_stops
#print axioms confirm_accepts_iff
#print axioms StopsAt.of_leaf
#print axioms Stops.andThen
#print axioms Stops.of_leafRun
