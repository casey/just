import Just.Props.C05
open Just.Props.C05
#print axioms groups_partition
#print axioms group_arity
#print axioms parseGroup_arity
#print axioms parse_fuel_enough
#print axioms bind_total
#print axioms bind_singular
#print axioms bind_variadic
#print axioms bind_star_empty
#print axioms bind_plus_needs_word
#print axioms bind_default
#print axioms bind_given_ignores_default
#print axioms overrides_are_leading
#print axioms resolve_spec
#print axioms resolveHead_spec
#print axioms parseGroup_spec
#print axioms parseGroup_ok
#print axioms parseLoop_spec
#print axioms requiredCount_cons
#print axioms bindArgs_length
#print axioms bindArgs_ok
#print axioms positional_args_sticky
#print axioms override_whatever_the_value
#print axioms dir_recipe_form
#print axioms positional_overrides
