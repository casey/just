import Just.Props.C08
open Just.Props.C08
#print axioms export_scopes_equation
#print axioms env_set_equation
#print axioms current_scope_invisible
#print axioms constants_never_exported
#print axioms exported_iff
#print axioms unexport_vs_parameter
#print axioms exportBindings_eq
#print axioms removeAll_eq
#print axioms setAll_eq
#print axioms exportedIn_none
#print axioms exportedIn_of_mem
#print axioms exportScopes_append_last
