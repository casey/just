import Just.Props.C06
open Just.C06
#print axioms line_verbatim
#print axioms continued_text
#print axioms continued_value_untouched
#print axioms unescape_escape
#print axioms unescape_plain
#print axioms linewise_commands
#print axioms at_most_one_process_per_line
#print axioms script_line_numbers
#print axioms shebang_line_numbers
#print axioms shell_flag_and_args
#print axioms shell_flag_only
#print axioms shell_args_only
#print axioms shell_setting
#print axioms shell_default
#print axioms command_line_overrides_setting
#print axioms script_own_command_first
#print axioms script_setting_second
#print axioms script_default
#print axioms scripts_ignore_shell
#print axioms linewise_uses_shell
#print axioms evalRest_eq
#print axioms evalLine_continuation
#print axioms goLines_spec
#print axioms scriptRest_lines
#print axioms nthLine_skip
#print axioms nthLine_record
#print axioms mem_unescape
#print axioms mem_trimStart
#print axioms nthLine_line
#print axioms newlines_eq
