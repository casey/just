import Just.Props.C03
open Just.Props.C03
#print axioms walk_complete
#print axioms assignments_accept_sound
#print axioms undefined_in_assignment_rejected
#print axioms self_reference_rejected
#print axioms recipes_accept_sound
#print axioms defaults_scope
#print axioms recipe_vars_sound
#print axioms callsOk_false_of_bad
#print axioms documented_functions_present
#print axioms checked_eq_evaluated
#print axioms old_resolver_gap
#print axioms all_lines_checked
#print axioms Just.Dfs.node_sound
#print axioms Just.Dfs.sorted_rank
#print axioms resolveAssignments_no_fuel
#print axioms resolveRecipes_no_fuel
#print axioms bad_call_never_parses
#print axioms duplicates_rejected_iff
#print axioms mixed_kinds_always_rejected
#print axioms vars_of_occurs
#print axioms varsAny_of_occurs
#print axioms occurs_of_vars
#print axioms occursAny_of_vars
#print axioms vars_toList
#print axioms find_mem_names
#print axioms allDefined_iff
#print axioms callsOkAny_false_of_bad
#print axioms checkLoop_eq_evalLoop
#print axioms walk_vars
#print axioms checkLoop_false
