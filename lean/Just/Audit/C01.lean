import Just.Props.C01
open Just.Props.C01 Just.Run
#print axioms runRecipe_sound
#print axioms runDeps_sound
#print axioms rank_bound
#print axioms run_once
#print axioms run_once_cmdline
#print axioms requested_runs
#print axioms only_reachable
#print axioms priors_first_subsequents_after
#print axioms cmdline_left_to_right
#print axioms deps_left_to_right
#print axioms fuel_enough
#print axioms topKeys_leaf
#print axioms topKeys_sub_bodyRecipes
#print axioms TopGood.nil_ok
#print axioms TopGood.nil_err
#print axioms TopGood.of_topKeys_nil
#print axioms once_all
#print axioms fuel_enough_all
#print axioms mem_topKeys
#print axioms mem_bodyRecipes
#print axioms topKeys_eq_nil
#print axioms Reach.rank_le
#print axioms body_events
#print axioms TopGood.congr
#print axioms TopGood.toError
#print axioms TopGood.append
#print axioms TopGood.body
#print axioms topKeys_sub
#print axioms deps_started
#print axioms topKeys_leafRun
#print axioms memo_from
#print axioms started
