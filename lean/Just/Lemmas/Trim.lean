import Just.Model.Eval
/-
About `trimStartMatchesL` / `trimEndMatchesL` of `Just.Eval` (`trim_start_matches`, `trim_end_matches`): with fuel above
the length of the text every leading copy of a non-empty pattern goes and nothing else (`trimStartMatchesL_spec`); the end
version is the start version on the reversed text (`trimEndMatchesL_eq`), whence `trimEndMatchesL_spec`.
-/
namespace Just.Eval

theorem trimStartMatchesL_spec (pat : List Char) (hp : pat ≠ []) (fuel : Nat) (s : List Char) (h : s.length < fuel) :
    ∃ k, s = (List.replicate k pat).flatten ++ trimStartMatchesL pat fuel s ∧
      pat.isPrefixOf (trimStartMatchesL pat fuel s) = false := by
  fun_induction trimStartMatchesL pat fuel s
  case case1 => omega
  case case2 fuel s hpre ih =>
    have hpre := List.isPrefixOf_iff_prefix.mp hpre
    have heq : pat ++ s.drop pat.length = s := List.prefix_iff_eq_append.mp hpre
    have hlen : 0 < pat.length := List.length_pos_iff.mpr hp
    have hsl := hpre.length_le
    obtain ⟨k, hk, hn⟩ := ih (by rw [List.length_drop]; omega)
    exact ⟨k + 1, by rw [List.replicate_succ, List.flatten_cons, List.append_assoc, ← hk, heq], hn⟩
  case case3 hpre => exact ⟨0, rfl, Bool.eq_false_iff.mpr hpre⟩

theorem trimEndMatchesL_eq (pat : List Char) (fuel : Nat) (s : List Char) :
    trimEndMatchesL pat fuel s = (trimStartMatchesL pat.reverse fuel s.reverse).reverse := by
  fun_induction trimEndMatchesL pat fuel s
  case case1 => simp [trimStartMatchesL]
  case case2 fuel s hpre ih =>
    have hle := (List.isPrefixOf_iff_prefix.mp hpre).length_le
    rw [List.length_reverse, List.length_reverse] at hle
    rw [ih, trimStartMatchesL, if_pos hpre, List.reverse_take, List.length_reverse,
      show s.length - (s.length - pat.length) = pat.length by omega]
  case case3 hpre => rw [trimStartMatchesL, if_neg hpre, List.reverse_reverse]

theorem trimEndMatchesL_spec (pat : List Char) (hp : pat ≠ []) (fuel : Nat) (s : List Char) (h : s.length < fuel) :
    ∃ k, s = trimEndMatchesL pat fuel s ++ (List.replicate k pat).flatten ∧
      ¬ pat <:+ trimEndMatchesL pat fuel s := by
  obtain ⟨k, hk, hn⟩ := trimStartMatchesL_spec pat.reverse (by simpa using hp) fuel s.reverse (by simpa using h)
  rw [trimEndMatchesL_eq]
  refine ⟨k, ?_, fun hs => ?_⟩
  · have := congrArg List.reverse hk
    simpa [List.reverse_flatten] using this
  · rw [← List.reverse_prefix, List.reverse_reverse, ← List.isPrefixOf_iff_prefix, hn] at hs
    cases hs

end Just.Eval
