import Just.Model.Ast
import Just.Lemmas.Items
import Just.Lemmas.DropWhile
/-
Round trip of whole justfiles (`C10.file_roundtrip`): parse_ast (Display for Ast) = the items, up to what the printer forgets.
One turn of the loop for each kind of printed item (`step`: attribute lines, the keyword dispatch with its look-ahead guards, the
item's own parser); the loop is given three turns an item.
-/
namespace Just.Ast
open Just Just.Syntax Just.Header Just.Items

theorem parseLit_rt (l : String) (rest : List Tk) : parseLit (litTokens l ++ rest) = some (l, rest) := by
  rcases litTokens_cases l with ⟨cs, hcs, h⟩ | h
  · rw [h]; simp [parseLit, xLit_ofList hcs]
  · rw [h]; simp [parseLit]

theorem litTokens_ne_nil (l : String) : litTokens l ≠ [] := by
  rcases litTokens_cases l with ⟨cs, _, h⟩ | h <;> simp [h]

theorem parseLitList_rt (rest : List Tk) (hrest : ∀ r, rest ≠ Tk.comma :: r) : ∀ (l : String) (ls : List String) (f : Nat), ls.length < f →
    parseLitList f (printLits (l :: ls) ++ rest) = some (l :: ls, rest)
  | l, [], f + 1, _ => by simp only [printLits, parseLitList, parseLit_rt]
  | l, l' :: ls, f + 1, hf => by
    simp only [printLits, List.append_assoc, List.cons_append, parseLitList, parseLit_rt,
      parseLitList_rt rest hrest l' ls f (Nat.lt_of_succ_lt_succ hf)]

/-- two attributes that may stand in this order in one attribute set: sorted, and not duplicates of each other -/
def Compatible (litLe : String → String → Bool) (b a : Attr) : Prop :=
  attrLe litLe b a = true ∧ (b.name == a.name && (a.name != "group" || b.args == a.args)) = false

theorem insertAttr_end (litLe : String → String → Bool) (a : Attr) (acc : List Attr) (h : ∀ b ∈ acc, attrLe litLe b a = true) :
    insertAttr litLe a acc = acc ++ [a] := by
  induction acc with
  | nil => rfl
  | cons b l ih =>
    simp only [insertAttr, (List.forall_mem_cons.mp h).1, if_true, List.cons_append]
    rw [ih (List.forall_mem_cons.mp h).2]

theorem isDup_false (a : Attr) (acc : List Attr)
    (h : ∀ b ∈ acc, (b.name == a.name && (a.name != "group" || b.args == a.args)) = false) : isDup a acc = false :=
  List.any_eq_false.mpr fun b hb => by simp [h b hb]

theorem parseAttrArgs_rt (fuel : Nat) (args : List String) (hf : args.length ≤ fuel) (rest : List Tk) :
    parseAttrArgs fuel (printAttrArgs args ++ tBracketR :: rest) = some (args, tBracketR :: rest) := by
  cases args with
  | nil => rfl
  | cons l ls =>
    have := parseLitList_rt (Tk.rparen :: tBracketR :: rest) nofun l ls fuel hf
    simp only [printAttrArgs, List.cons_append, List.append_assoc, List.nil_append] at this ⊢
    simp only [parseAttrArgs, this]

/-- one printed attribute line, read after its `[` -/
theorem parseAttrGroup_rt (litLe : String → String → Bool) (fuel f : Nat) (a : Attr) (acc : List Attr) (rest : List Tk)
    (hf : a.args.length ≤ fuel) (hv : attrValid a = true) (hc : ∀ b ∈ acc, Compatible litLe b a) :
    parseAttrGroup litLe fuel (f + 1) acc (.ident a.name :: (printAttrArgs a.args ++ tBracketR :: tEol :: rest)) = some (acc ++ [a], rest) := by
  have hargs := parseAttrArgs_rt fuel a.args hf (tEol :: rest)
  have hdup := isDup_false a acc (fun b hb => (hc b hb).2)
  have hins := insertAttr_end litLe a acc (fun b hb => (hc b hb).1)
  simp only [tBracketR, tEol] at hargs ⊢
  simp only [parseAttrGroup, hargs, hv, hdup, hins, expectEol_eol]
  simp

/-- the attribute lines of an item: valid attributes, in order, no duplicates -/
structure WFAttrs (litLe : String → String → Bool) (as : List Attr) : Prop where
  valid : ∀ a ∈ as, attrValid a = true
  sorted : as.Pairwise (Compatible litLe)

/-- the attribute lines of an item, read with `acc` in hand: what has been read and what comes are, together, in order -/
theorem parseAttributes_rt (litLe : String → String → Bool) (fuel : Nat) (hfuel1 : 1 ≤ fuel) (rest : List Tk)
    (hrest : ∀ r, rest ≠ Tk.other "BracketL" :: r) :
    ∀ (as acc : List Attr), (∀ a ∈ as, attrValid a = true ∧ a.args.length ≤ fuel) → (acc ++ as).Pairwise (Compatible litLe) →
    ∀ f, as.length < f → parseAttributes litLe fuel f acc (printAttrs as ++ rest) = some (acc ++ as, rest)
  | [], acc, _, _, f + 1, _ => by simp only [printAttrs, List.nil_append, parseAttributes, List.append_nil]
  | a :: as, acc, hv, hs, f + 1, hf => by
    obtain ⟨⟨hva, hfa⟩, hvs⟩ := List.forall_mem_cons.mp hv
    have hrec := parseAttributes_rt litLe fuel hfuel1 rest hrest as (acc ++ [a]) hvs (by simpa using hs) f (Nat.lt_of_succ_lt_succ hf)
    obtain ⟨fuel, rfl⟩ := Nat.exists_eq_add_one.mpr hfuel1
    have hg := parseAttrGroup_rt litLe (fuel + 1) fuel a acc (printAttrs as ++ rest) hfa hva
      fun b hb => (List.pairwise_append.mp hs).2.2 b hb a List.mem_cons_self
    simp only [printAttrs, printAttr, tBracketL, List.cons_append, List.nil_append, List.append_assoc, parseAttributes]
    simp only [hg, hrec, List.append_assoc, List.singleton_append]

/-- the value has the form `parse_set` reads for this setting -/
def WFSetting (s : Setting) : Prop :=
  match s.value with
  | .flag _ => settingForm s.name = some "bool"
  | .lit _ => settingForm s.name = some "string"
  | .interp _ _ => settingForm s.name = some "interpreter"

/-- the arguments after the command, read after the first comma -/
theorem parseInterpArgs_rt (rest : List Tk) : ∀ (a : String) (as : List String) (f : Nat), as.length < f →
    parseInterpArgs f (litTokens a ++ (printInterpArgs as ++ tBracketR :: rest)) = some (a :: as, tBracketR :: rest)
  | a, as, f + 1, hf => by
    have hnb : ∀ r, litTokens a ++ (printInterpArgs as ++ tBracketR :: rest) ≠ Tk.other "BracketR" :: r := ((litTokens_head a).append _).ne rfl
    cases as with
    | nil => simp only [printInterpArgs, List.nil_append, tBracketR, parseInterpArgs, parseLit_rt] at hnb ⊢
    | cons b bs =>
      have hrec := parseInterpArgs_rt rest b bs f (Nat.lt_of_succ_lt_succ hf)
      simp only [printInterpArgs, List.append_assoc, List.cons_append] at hrec hnb ⊢
      simp only [parseInterpArgs, parseLit_rt, hrec]

theorem parseInterpreter_rt (fuel : Nat) (cmd : String) (args : List String) (hf : args.length ≤ fuel) (rest : List Tk) :
    parseInterpreter fuel (printSetVal (.interp cmd args) ++ rest) = some (.interp cmd args, rest) := by
  simp only [printSetVal, tBracketL, tBracketR, List.cons_append, List.append_assoc, List.nil_append]
  cases args with
  | nil => simp only [printInterpArgs, List.nil_append, parseInterpreter, parseLit_rt]
  | cons a as =>
    have h := parseInterpArgs_rt rest a as fuel hf
    simp only [tBracketR] at h
    simp only [printInterpArgs, List.cons_append, List.append_assoc, parseInterpreter, parseLit_rt, h]

theorem parseSet_rt (fuel : Nat) (s : Setting) (hw : WFSetting s) (hf : ∀ c as, s.value = .interp c as → as.length ≤ fuel) (rest : List Tk) :
    parseSet fuel (printSetting s ++ rest) = some (s, rest) := by
  obtain ⟨name, b | l | ⟨c, as⟩⟩ := s <;> simp only [WFSetting] at hw
  · cases b <;> simp [printSetting, printSetVal, parseSet, hw, parseSetBool, tColonEquals]
  · simp only [printSetting, printSetVal, tColonEquals, List.cons_append]
    simp [parseSet, hw, parseLit_rt]
  · have h := parseInterpreter_rt fuel c as (hf c as rfl) rest
    simp only [printSetting, tColonEquals, List.cons_append]
    simp [parseSet, hw, h]

theorem trimEnd_eq_self (cs : List Char) (h : ∀ c, cs.getLast? = some c → Body.isWhite c = false) : trimEnd cs = cs := by
  rw [trimEnd, dropWhile_eq_self (by simpa [List.head?_reverse] using h), List.reverse_reverse]

/-- a doc comment as `parse_recipe` keeps it: not empty, no white space at either end -/
structure WFDoc (d : List Char) : Prop where
  nonempty : d ≠ []
  first : ∀ c, d.head? = some c → Body.isWhite c = false
  last : ∀ c, d.getLast? = some c → Body.isWhite c = false

theorem docOf_printed (d : List Char) (h : WFDoc d) : docOf ('#' :: ' ' :: d) = d :=
  dropWhile_eq_self h.first

theorem trimEnd_printed (d : List Char) (h : WFDoc d) : trimEnd ('#' :: ' ' :: d) = '#' :: ' ' :: d := by
  apply trimEnd_eq_self
  intro c hc
  cases d with
  | nil => exact absurd rfl h.nonempty
  | cons x xs =>
    apply h.last c
    simpa [List.getLast?_cons_cons] using hc

theorem printLines_snoc_empty (ls : List BLine) : printLines (ls ++ [[]]) = printLines ls ++ [tEol] := by
  induction ls with
  | nil => rfl
  | cons l ls ih => simp [printLines, ih]

theorem parseBodyBlock_rt (fuel : Nat) (ls : List BLine) (blank : Bool) (hw : ∀ l ∈ ls, ∀ f ∈ l, WFFrag f) (hne : NoTrailingEmpty ls)
    (hf : BodyFuel fuel ls) (hf1 : ls.length + 1 < fuel) (rest : List Tk) (hrest : ∀ r, rest ≠ Tk.other "Indent" :: r) :
    parseBody fuel (printBodyBlock ls blank ++ rest) = some (ls, (if ls.isEmpty && blank then [tEol] else []) ++ rest) := by
  cases blank
  · -- without the empty line the block is the body as `printBody` prints it
    have h := parseBody_rt fuel ls hw hne hf rest hrest
    cases ls <;> simpa [printBodyBlock, printBody] using h
  · cases ls with
    | nil => rfl
    | cons l ls' =>
      -- the empty line is one more, empty, line of the body, which `parse_body` drops again
      have h := parseLines_rt fuel fuel rest ((l :: ls') ++ [[]])
        (List.forall_mem_append.mpr ⟨hw, by simp⟩) (List.forall_mem_append.mpr ⟨hf.exprs, by simp⟩)
        (List.forall_mem_append.mpr ⟨hf.frags, by simp; omega⟩) fuel (by simp at hf1 ⊢; omega)
      rw [printLines_snoc_empty] at h
      simp only [printBodyBlock, tIndent, tDedent, tEol, if_true, List.cons_append, List.append_assoc,
        List.nil_append] at h ⊢
      have hd := (dropTrailingEmpty_snoc (l :: ls')).trans (dropTrailingEmpty_id _ hne)
      simp only [List.cons_append] at hd
      simp [parseBody, h, hd]

theorem private_valid : attrValid ⟨"private", []⟩ = true := by decide

theorem parseAttributes_none (litLe : String → String → Bool) (fuel f : Nat) (ts : List Tk) (h : ∀ r, ts ≠ Tk.other "BracketL" :: r) :
    parseAttributes litLe fuel (f + 1) [] ts = some ([], ts) := by
  simp only [parseAttributes]

theorem parseAttributes_priv (litLe : String → String → Bool) (fuel : Nat) (p : Bool) (rest : List Tk)
    (hrest : ∀ r, rest ≠ Tk.other "BracketL" :: r) :
    parseAttributes litLe (fuel + 2) (fuel + 2) [] (privLine p ++ rest) = some (if p then [⟨"private", []⟩] else [], rest) := by
  cases p
  · exact parseAttributes_none litLe _ _ rest hrest
  · simp [privLine, tBracketL, tBracketR, tEol, parseAttributes, parseAttrGroup, parseAttrArgs, private_valid, isDup, insertAttr,
      expectEol_eol]

section step
variable {litLe : String → String → Bool} {fuel : Nat} {acc : List Item} {eol : Bool} {ts r rest : List Tk} {attrs : List Attr}

theorem step_ident {kw : String} (ha : parseAttributes litLe fuel fuel [] ts = some (attrs, .ident kw :: r)) :
    step litLe fuel acc eol ts = identStep fuel kw attrs acc eol (.ident kw :: r) := by
  simp only [step, ha]

theorem step_at (ha : parseAttributes litLe fuel fuel [] ts = some (attrs, .other "At" :: r)) :
    step litLe fuel acc eol ts = recipeStep fuel attrs acc eol (.other "At" :: r) := by
  simp only [step, ha]

theorem identStep_alias {a : Alias} (hg : guardIIC ts = true) (hp : parseAlias fuel ts = some (a, rest)) (ha : onlyPrivate attrs = true) :
    identStep fuel "alias" attrs acc eol ts = some (.more (.alias (!attrs.isEmpty) a :: acc) eol rest) := by
  simp [identStep, hg, hp, ha]

theorem identStep_export {a : Assignment} (hg : guardIIC ts = true) (hp : parseAssignment fuel ts = some (a, rest))
    (ha : onlyPrivate attrs = true) :
    identStep fuel "export" attrs acc eol ts = some (.more (.assignment (!attrs.isEmpty || startsUnderscore a.name) a :: acc) eol rest) := by
  simp [identStep, hg, hp, ha]

theorem identStep_unexport {t : Tk} {n : String} (hg : guardUnexport (t :: .ident n :: r) = true) (hp : expectEol r = some rest) :
    identStep fuel "unexport" [] acc eol (t :: .ident n :: r) = some (.more (.unexport n :: acc) eol rest) := by
  simp [identStep, hg, hp]

theorem identStep_import (hg : guardImport ts = true) : identStep fuel "import" attrs acc eol ts = importStep attrs acc eol ts := by
  simp [identStep, hg]

theorem identStep_mod (hg : guardMod ts = true) : identStep fuel "mod" attrs acc eol ts = modStep attrs acc eol ts := by
  simp [identStep, hg]

theorem identStep_set {s : Setting} (hg : guardSet ts = true) (hp : parseSet fuel ts = some (s, rest)) :
    identStep fuel "set" [] acc eol ts = some (.more (.set s :: acc) eol rest) := by
  simp [identStep, hg, hp]

/-- no keyword guard fires and `:=` comes next: an assignment, whatever the name is -/
theorem identStep_assign {kw : String} {a : Assignment} (h : guardIIC ts = false ∧ guardUnexport ts = false ∧ guardImport ts = false
    ∧ guardMod ts = false ∧ guardSet ts = false) (h6 : guardAssign ts = true)
    (hp : parseAssignment fuel ts = some (a, rest)) (ha : onlyPrivate attrs = true) :
    identStep fuel kw attrs acc eol ts = some (.more (.assignment (!attrs.isEmpty || startsUnderscore a.name) a :: acc) eol rest) := by
  simp [identStep, h, h6, hp, ha]

/-- no guard fires at all: a recipe, whatever it is called -/
theorem identStep_recipe {kw : String} (h : guardIIC ts = false ∧ guardUnexport ts = false ∧ guardImport ts = false
    ∧ guardMod ts = false ∧ guardSet ts = false ∧ guardAssign ts = false) :
    identStep fuel kw attrs acc eol ts = recipeStep fuel attrs acc eol ts := by
  simp [identStep, h]

end step

section turn
variable (litLe : String → String → Bool) (fuel : Nat) (acc : List Item) (eol : Bool)

theorem step_comment (c : List Char) (rest : List Tk) :
    step litLe (fuel + 1) acc eol (.comment c :: tEol :: rest) = some (.more (.comment (trimEnd c) :: acc) false rest) := rfl

theorem step_eol (rest : List Tk) : step litLe (fuel + 1) acc eol (tEol :: rest) = some (.more acc true rest) := rfl

theorem step_eof : step litLe (fuel + 1) acc eol [tEof] = some (.done acc) := rfl

theorem step_alias (p : Bool) (a : Alias)
    (hf : a.path.length < fuel + 2) (rest : List Tk) :
    step litLe (fuel + 2) acc eol (privLine p ++ (printAlias a ++ rest)) = some (.more (.alias p a :: acc) eol rest) := by
  have ha := parseAttributes_priv litLe fuel p (printAlias a ++ rest) nofun
  have hp := parseAlias_rt (fuel + 2) a hf rest
  exact (step_ident (kw := "alias") ha).trans <| (identStep_alias rfl hp (by cases p <;> rfl)).trans (by cases p <;> rfl)

/-- after a name, `:=` stops every keyword guard: `set := 1` is an assignment -/
theorem guards_assign (n : String) (r : List Tk) :
    guardIIC (.ident n :: .other "ColonEquals" :: r) = false ∧ guardUnexport (.ident n :: .other "ColonEquals" :: r) = false
    ∧ guardImport (.ident n :: .other "ColonEquals" :: r) = false ∧ guardMod (.ident n :: .other "ColonEquals" :: r) = false
    ∧ guardSet (.ident n :: .other "ColonEquals" :: r) = false := ⟨rfl, rfl, rfl, rfl, rfl⟩

theorem step_assignment (p : Bool) (a : Assignment)
    (hw : WF a.value) (hp : startsUnderscore a.name = true → p = true) (hf : 4 * a.value.size + 3 ≤ fuel + 2) (rest : List Tk) :
    step litLe (fuel + 2) acc eol (privLine p ++ (printAssignment a ++ rest)) = some (.more (.assignment p a :: acc) eol rest) := by
  have hpa := parseAssignment_rt (fuel + 2) a hw hf rest
  -- the `private` flag comes back: from the attribute line, or from the name
  have hpriv : (!(if p then [(⟨"private", []⟩ : Attr)] else []).isEmpty || startsUnderscore a.name) = p := by
    cases p
    · cases h : startsUnderscore a.name
      · rfl
      · cases hp h
    · rfl
  have hop : onlyPrivate (if p then [(⟨"private", []⟩ : Attr)] else []) = true := by cases p <;> rfl
  obtain ⟨exported, name, value⟩ := a
  cases exported
  · have ha := parseAttributes_priv litLe fuel p (printAssignment ⟨false, name, value⟩ ++ rest) nofun
    exact (step_ident (kw := name) ha).trans <| (identStep_assign (guards_assign name _) rfl hpa hop).trans (by rw [hpriv])
  · have ha := parseAttributes_priv litLe fuel p (printAssignment ⟨true, name, value⟩ ++ rest) nofun
    exact (step_ident (kw := "export") ha).trans <| (identStep_export rfl hpa hop).trans (by rw [hpriv])

theorem step_unexport (n : String) (rest : List Tk) :
    step litLe (fuel + 1) acc eol (.ident "unexport" :: .ident n :: tEol :: rest) = some (.more (.unexport n :: acc) eol rest) :=
  (step_ident (parseAttributes_none litLe (fuel + 1) fuel _ nofun)).trans
    (identStep_unexport rfl (expectEol_eol rest))

theorem acceptQuestion_printed (o : Bool) (rest : List Tk) (h : ∀ r, rest ≠ Tk.other "QuestionMark" :: r) :
    acceptQuestion (printOptional o ++ rest) = (o, rest) := by
  cases o with
  | true => rfl
  | false => simp only [printOptional, Bool.false_eq_true, if_false, List.nil_append, acceptQuestion]

theorem guardImport_printed (o : Bool) (p : String) (rest : List Tk) :
    guardImport (.ident "import" :: (printOptional o ++ (litTokens p ++ rest))) = true := by
  cases o with
  | true => rfl
  | false => rcases litTokens_cases p with ⟨cs, _, h⟩ | h <;> rw [h] <;> rfl

theorem step_import (o : Bool) (p : String) (rest : List Tk) :
    step litLe (fuel + 1) acc eol (.ident "import" :: (printOptional o ++ (litTokens p ++ rest))) = some (.more (.import o p :: acc) eol rest) := by
  have hq := acceptQuestion_printed o (litTokens p ++ rest) (((litTokens_head p).append rest).ne rfl)
  refine (step_ident (parseAttributes_none litLe (fuel + 1) fuel _ nofun)).trans <|
    (identStep_import (guardImport_printed o p rest)).trans ?_
  simp only [importStep, hq, parseLit_rt, List.isEmpty_nil, if_true]

theorem step_set (s : Setting) (hw : WFSetting s)
    (hf : ∀ c as, s.value = .interp c as → as.length ≤ fuel + 1) (rest : List Tk) :
    step litLe (fuel + 1) acc eol (printSetting s ++ rest) = some (.more (.set s :: acc) eol rest) :=
  (step_ident (kw := "set") (parseAttributes_none litLe (fuel + 1) fuel _ nofun)).trans
    (identStep_set rfl (parseSet_rt (fuel + 1) s hw hf rest))

theorem guardMod_printed (o : Bool) (n : String) (p : Option String) (rest : List Tk) :
    guardMod (.ident "mod" :: (printOptional o ++ (.ident n :: (printOptLit p ++ tEol :: rest)))) = true := by
  cases o with
  | true => rfl
  | false =>
    cases p with
    | none => rfl
    | some l => rcases litTokens_cases l with ⟨cs, _, h⟩ | h <;> simp only [printOptLit, h] <;> rfl

theorem parseModPath_printed (p : Option String) (rest : List Tk) :
    parseModPath (printOptLit p ++ tEol :: rest) = some (p, tEol :: rest) := by
  cases p with
  | none => rfl
  | some l =>
    have h := parseLit_rt l (tEol :: rest)
    -- one token or two: `parse_string_literal` reads either
    rcases litTokens_cases l with ⟨cs, _, hl⟩ | hl <;>
      (simp only [printOptLit, hl] at h ⊢
       simp only [List.cons_append, List.nil_append] at h ⊢
       simp only [parseModPath, h, Option.map])

theorem step_module (o : Bool) (n : String) (p : Option String)
    (hg : popDoc acc eol = (none, acc)) (rest : List Tk) :
    step litLe (fuel + 1) acc eol (.ident "mod" :: (printOptional o ++ (.ident n :: (printOptLit p ++ tEol :: rest))))
      = some (.more (.module o n p none [] :: acc) eol (tEol :: rest)) := by
  have hq := acceptQuestion_printed o (.ident n :: (printOptLit p ++ tEol :: rest)) nofun
  refine (step_ident (parseAttributes_none litLe (fuel + 1) fuel _ nofun)).trans <|
    (identStep_mod (guardMod_printed o n p rest)).trans ?_
  simp only [modStep, hq, parseModPath_printed, hg]
  rfl

theorem header_second (h : Header) (more : List Tk) :
    ∀ r, printParams h.params ++ (printVariadic h.variadic ++ (tColon :: more)) ≠ Tk.other "ColonEquals" :: r := by
  obtain ⟨_, _, ps, v, _, _⟩ := h
  rcases ps with _ | ⟨⟨k, e, _, _⟩, _⟩
  · rcases v with _ | ⟨k, e, _, _⟩
    · simp [printParams, printVariadic, tColon]
    · cases k <;> cases e <;> simp [printParams, printVariadic, printParam, printKind, printDollar, tDollar, tAsterisk]
  · cases k <;> cases e <;> simp [printParams, printParam, printKind, printDollar, tDollar, tAsterisk]

/-- The first token that is not a name is `:`, `+`, `*`, `$` or `=`.  Every look-ahead guard asks, after some names, for a
token that is none of these; after the name of a recipe the printed header has names (of parameters) and then one of these. -/
def safeNext : List Tk → Bool
  | .ident _ :: r => safeNext r
  | .plus :: _ | .other "Colon" :: _ | .other "Asterisk" :: _ | .other "Dollar" :: _ | .other "Equals" :: _ => true
  | _ => false

theorem guards_safe (n : String) (ts : List Tk) (h : safeNext ts = true) :
    guardIIC (.ident n :: ts) = false ∧ guardUnexport (.ident n :: ts) = false ∧ guardImport (.ident n :: ts) = false
    ∧ guardMod (.ident n :: ts) = false ∧ guardSet (.ident n :: ts) = false ∧ guardAssign (.ident n :: ts) = false := by
  -- a guard that fires contradicts `safeNext`: on each of its patterns, `safeNext` of the tokens after the first name is `false`
  have key : ∀ {l : List Tk}, l = .ident n :: ts →
      ∀ g ∈ [guardIIC, guardUnexport, guardImport, guardMod, guardSet, guardAssign], g l = false := by
    intro l hl g hg
    refine Bool.eq_false_iff.mpr fun hgt => ?_
    suffices safeNext ts = false by rw [this] at h; cases h
    simp only [List.mem_cons, List.not_mem_nil, or_false] at hg
    rcases hg with rfl | rfl | rfl | rfl | rfl | rfl
    · unfold guardIIC at hgt; split at hgt <;> first | (cases hl; rfl) | cases hgt
    · unfold guardUnexport at hgt; split at hgt <;> first | (cases hl; rfl) | cases hgt
    · unfold guardImport at hgt; split at hgt <;> first | (cases hl; rfl) | cases hgt
    · unfold guardMod at hgt; split at hgt <;> first | (cases hl; rfl) | cases hgt
    · unfold guardSet at hgt; split at hgt <;> first | (cases hl; rfl) | cases hgt
    · unfold guardAssign at hgt; split at hgt <;> first | (cases hl; rfl) | cases hgt
  simpa using key rfl

theorem safeNext_params (v : Option Param) (hv : ∀ x, v = some x → x.kind ≠ .singular) (more : List Tk) :
    ∀ ps : List Param, (∀ p ∈ ps, p.kind = .singular) → safeNext (printParams ps ++ (printVariadic v ++ tColon :: more)) = true
  | [], _ => by
    match v, hv with
    | none, _ => rfl
    | some ⟨.plus, _, _, _⟩, _ => rfl
    | some ⟨.star, _, _, _⟩, _ => rfl
    | some ⟨.singular, _, _, _⟩, hv => exact absurd rfl (hv _ rfl)
  | ⟨kind, exported, name, default⟩ :: ps, h => by
    obtain ⟨hk, hps⟩ := List.forall_mem_cons.mp h
    cases hk
    have ih := safeNext_params v hv more ps hps
    cases exported
    · cases default
      · exact ih
      · rfl
    · rfl

theorem printHeader_shape (h : Header) (more : List Tk) :
    printHeader h ++ more = printQuiet h.quiet ++ (.ident h.name :: (printParams h.params ++ (printVariadic h.variadic ++
      (tColon :: (printDeps h.priors ++ (printSubsequents h.subsequents ++ (tEol :: more))))))) := by
  simp [printHeader, List.append_assoc]

/-- no look-ahead guard of the keyword dispatch fires on a printed recipe header, whatever the recipe is called -/
theorem header_guards (h : Header) (hw : WFHeader h) (hq : h.quiet = false) (more : List Tk) :
    guardIIC (printHeader h ++ more) = false ∧ guardUnexport (printHeader h ++ more) = false ∧ guardImport (printHeader h ++ more) = false
    ∧ guardMod (printHeader h ++ more) = false ∧ guardSet (printHeader h ++ more) = false ∧ guardAssign (printHeader h ++ more) = false := by
  rw [printHeader_shape, hq]
  exact guards_safe _ _ (safeNext_params _ (fun x hx => (hw.variadic x hx).1) _ _ fun p hp => (hw.params p hp).1)

theorem parseRecipeBlock_rt (r : Recipe) (blank : Bool) (hw : WFRecipe r) (hf : RecipeFuel fuel r) (hf1 : r.body.length + 1 < fuel)
    (rest : List Tk) (hrest : ∀ t, rest ≠ Tk.other "Indent" :: t) :
    parseRecipe fuel (printHeader r.header ++ (printBodyBlock r.body blank ++ rest))
      = some (r, (if r.body.isEmpty && blank then [tEol] else []) ++ rest) := by
  have hh := parseHeader_rt r.header hw.header fuel hf.header (printBodyBlock r.body blank ++ rest)
  have hb := parseBodyBlock_rt fuel r.body blank hw.body hw.noTrailingEmpty hf.body hf1 rest hrest
  simp only [parseRecipe, hh, hb]

structure WFRecipeItem (litLe : String → String → Bool) (attrs : List Attr) (r : Recipe) : Prop where
  wfAttrs : WFAttrs litLe attrs
  recipe : WFRecipe r
  conflict : recipeConflict attrs r.body = false

structure RecipeItemFuel (fuel : Nat) (attrs : List Attr) (r : Recipe) : Prop where
  args : ∀ a ∈ attrs, a.args.length ≤ fuel
  attrs : attrs.length < fuel
  recipe : RecipeFuel fuel r
  lines : r.body.length + 1 < fuel

theorem guardAssign_false (n : String) (ts : List Tk) (h : ∀ r, ts ≠ Tk.other "ColonEquals" :: r) : guardAssign (.ident n :: ts) = false := by
  unfold guardAssign
  split
  next heq => exact absurd (List.cons.inj heq).2 (h _)
  · rfl

/-- the turn that reads a printed recipe; `d0` is what it pops as a doc comment -/
theorem step_recipe (attrs : List Attr) (r : Recipe)
    (blank : Bool) (hw : WFRecipeItem litLe attrs r) (hf : RecipeItemFuel fuel attrs r) (rest : List Tk)
    (hrest : ∀ t, rest ≠ Tk.other "Indent" :: t) {d0 doc : Option (List Char)} {acc0 : List Item} (hpop : popDoc acc eol = (d0, acc0))
    (hdoc : (if hasAttr "doc" attrs then none else d0.filter (fun d => !d.isEmpty)) = doc) :
    step litLe fuel acc eol (printAttrs attrs ++ (printHeader r.header ++ (printBodyBlock r.body blank ++ rest)))
      = some (.more (.recipe doc attrs r :: acc0) eol ((if r.body.isEmpty && blank then [tEol] else []) ++ rest)) := by
  -- the header line begins with `@` or with the name: no attribute line before it, and the dispatch goes to `recipeStep`
  have hstep : step litLe fuel acc eol (printAttrs attrs ++ (printHeader r.header ++ (printBodyBlock r.body blank ++ rest)))
      = recipeStep fuel attrs acc eol (printHeader r.header ++ (printBodyBlock r.body blank ++ rest)) := by
    have ha := fun rest hrest => parseAttributes_rt litLe fuel (Nat.zero_lt_of_lt hf.attrs) rest hrest attrs []
      (fun a h => ⟨hw.wfAttrs.valid a h, hf.args a h⟩) hw.wfAttrs.sorted fuel hf.attrs
    rw [printHeader_shape]
    cases hq : r.header.quiet
    · have hg := header_guards r.header hw.recipe.header hq (printBodyBlock r.body blank ++ rest)
      rw [printHeader_shape, hq] at hg
      exact (step_ident (ha _ nofun)).trans (identStep_recipe hg)
    · exact step_at (ha _ (by simp [printQuiet, tAt]))
  rw [hstep]
  simp only [recipeStep, parseRecipeBlock_rt fuel r blank hw.recipe hf.recipe hf.lines rest hrest, hw.conflict, hpop, ← hdoc]
  rfl

end turn

/-- what the round trip asks of an item (everything `parse_ast` returns has these properties) -/
def WFItem (litLe : String → String → Bool) : Item → Prop
  | .alias _ _ => True
  | .assignment p a => WF a.value ∧ (startsUnderscore a.name = true → p = true)
  | .comment c => trimEnd c = c
  | .import _ _ => True
  | .module _ _ _ _ _ => True
  | .recipe doc attrs r => WFRecipeItem litLe attrs r ∧ (hasAttr "doc" attrs = true → doc = none) ∧ (∀ d, doc = some d → WFDoc d)
  | .set s => WFSetting s
  | .unexport _ => True

def ItemFuel (fuel : Nat) : Item → Prop
  | .alias _ a => a.path.length < fuel
  | .assignment _ a => 4 * a.value.size + 3 ≤ fuel
  | .recipe _ attrs r => RecipeItemFuel fuel attrs r
  | .set s => ∀ c as, s.value = .interp c as → as.length + 1 ≤ fuel
  | _ => True

/-- `eol_since_last_comment` after a printed item and the empty line that may follow it -/
def eolAfter (it : Item) (blank : Bool) (eol : Bool) : Bool :=
  match it with
  | .import .. | .module .. | .set .. => true
  | .comment _ => blank
  | .recipe doc _ r => if r.body.isEmpty && blank then true else (if doc.isSome then false else eol)
  | _ => if blank then true else eol

section loop
variable {litLe : String → String → Bool} {fuel : Nat}

theorem parseItems_more {acc acc' : List Item} {eol eol' : Bool} {ts r : List Tk}
    (h : step litLe fuel acc eol ts = some (.more acc' eol' r)) (f : Nat) :
    parseItems litLe fuel (f + 1) acc eol ts = parseItems litLe fuel f acc' eol' r := by
  simp only [parseItems, h]

theorem parseItems_eol (f : Nat) (acc : List Item) (eol : Bool) (rest : List Tk) :
    parseItems litLe (fuel + 1) (f + 1) acc eol (tEol :: rest) = parseItems litLe (fuel + 1) f acc true rest :=
  parseItems_more (step_eol litLe fuel acc eol rest) f

/-- more turns than the loop needs do no harm: so every item may be given three -/
theorem parseItems_pad {out : List Item} : ∀ {f : Nat} {acc : List Item} {eol : Bool} {ts : List Tk},
    parseItems litLe fuel f acc eol ts = some out → parseItems litLe fuel (f + 1) acc eol ts = some out
  | 0, _, _, _, h => nomatch h
  | f + 1, acc, eol, ts, h => by
    unfold parseItems at h ⊢
    split at h
    · cases h
    · exact h
    · exact parseItems_pad h

theorem parseItems_pad_le {out : List Item} {f g : Nat} {acc : List Item} {eol : Bool} {ts : List Tk}
    (h : parseItems litLe fuel f acc eol ts = some out) (hle : f ≤ g) : parseItems litLe fuel g acc eol ts = some out := by
  induction hle with
  | refl => exact h
  | step _ ih => exact parseItems_pad ih

/-- the empty line after an item, if there is one: a turn either way -/
theorem parseItems_blank {out : List Item} {f : Nat} {acc : List Item} {eol eol' : Bool} (blank : Bool) {rest : List Tk}
    (h : parseItems litLe (fuel + 1) f acc eol' rest = some out) (he : eol' = if blank then true else eol) :
    parseItems litLe (fuel + 1) (f + 1) acc eol ((if blank then [tEol] else []) ++ rest) = some out := by
  subst he
  cases blank
  · exact parseItems_pad h
  · exact (parseItems_eol f acc eol rest).trans h

/-- **One printed item**, with the empty line after it if there is one: at most three turns of the loop. -/
theorem run_item (F : Nat) (it : Item) (blank : Bool) (hw : WFItem litLe it) (hf : ItemFuel (F + 2) it)
    (acc : List Item) (eol : Bool) (hg : it.kind ≠ 2 → popDoc acc eol = (none, acc))
    (rest : List Tk) (hrest : ∀ t, rest ≠ Tk.other "Indent" :: t) {f : Nat} {out : List Item}
    (h : parseItems litLe (F + 2) f (it.forget :: acc) (eolAfter it blank eol) rest = some out) :
    parseItems litLe (F + 2) (f + 3) acc eol (printOne it blank ++ rest) = some out := by
  cases it with
  | alias p a =>
    simp only [printOne, List.append_assoc]
    exact (parseItems_more (step_alias litLe F acc eol p a hf _) _).trans (parseItems_blank blank (parseItems_pad h) rfl)
  | assignment p a =>
    simp only [printOne, List.append_assoc]
    exact (parseItems_more (step_assignment litLe F acc eol p a hw.1 hw.2 hf _) _).trans (parseItems_blank blank (parseItems_pad h) rfl)
  | comment c =>
    have hs := step_comment litLe (F + 1) acc eol c ((if blank then [tEol] else []) ++ rest)
    rw [show trimEnd c = c from hw] at hs
    exact (parseItems_more hs _).trans (parseItems_blank blank (parseItems_pad h) (by cases blank <;> rfl))
  | «import» o p =>
    simp only [printOne, List.cons_append, List.append_assoc]
    exact (parseItems_more (step_import litLe (F + 1) acc eol o p _) _).trans <|
      (parseItems_eol _ _ eol _).trans (parseItems_blank blank h (by cases blank <;> rfl))
  | module o n p doc attrs =>
    simp only [printOne, List.cons_append, List.append_assoc]
    exact (parseItems_more (step_module litLe (F + 1) acc eol o n p (hg nofun) _) _).trans <|
      (parseItems_eol _ _ eol _).trans (parseItems_blank blank h (by cases blank <;> rfl))
  | «set» s =>
    simp only [printOne, List.cons_append, List.append_assoc]
    exact (parseItems_more (step_set litLe (F + 1) acc eol s hw (fun c as h => Nat.le_of_succ_le (hf c as h)) _) _).trans <|
      (parseItems_eol _ _ eol _).trans (parseItems_blank blank h (by cases blank <;> rfl))
  | unexport n =>
    exact (parseItems_more (step_unexport litLe (F + 1) acc eol n _) _).trans (parseItems_blank blank (parseItems_pad h) rfl)
  | recipe doc attrs r =>
    obtain ⟨hwr, hdocattr, hdocwf⟩ := hw
    have hpr : printOne (.recipe doc attrs r) blank ++ rest
        = docLine doc ++ (printAttrs attrs ++ (printHeader r.header ++ (printBodyBlock r.body blank ++ rest))) := by
      cases hd : hasAttr "doc" attrs
      · simp [printOne, hd]
      · simp [printOne, hd, hdocattr hd, docLine]
    rw [hpr]
    -- the empty line after a recipe without a body is a turn of its own; after a body it is the body's last line
    cases doc with
    | none =>
      -- no doc comment line: nothing must be popped
      have hs := step_recipe litLe (F + 2) acc eol attrs r blank hwr hf rest hrest (hg nofun) (doc := none)
        (by cases hasAttr "doc" attrs <;> rfl)
      exact (parseItems_more hs _).trans (parseItems_pad (parseItems_blank _ h rfl))
    | some d =>
      -- `# doc` line, then the recipe pops it
      have hwd := hdocwf d rfl
      have hc := step_comment litLe (F + 1) acc eol ('#' :: ' ' :: d)
        (printAttrs attrs ++ (printHeader r.header ++ (printBodyBlock r.body blank ++ rest)))
      rw [trimEnd_printed d hwd] at hc
      have hs := step_recipe litLe (F + 2) (Item.comment ('#' :: ' ' :: d) :: acc) false attrs r blank hwr hf rest hrest rfl
        (doc := some d) (by
          cases hd : hasAttr "doc" attrs
          · cases d with
            | nil => exact absurd rfl hwd.nonempty
            | cons _ _ => simp [docOf_printed _ hwd, Option.filter]
          · cases hdocattr hd)
      exact (parseItems_more hc _).trans ((parseItems_more hs _).trans (parseItems_blank _ h rfl))

end loop

/-- the state of the loop does not make the next item, unless it is a comment, pop a comment that is an item of its own.
`Item.kind` (Model/Ast.lean) numbers the kinds of items, and 2 is the comment: `it.kind ≠ 2`, throughout this file, reads
"`it` is no comment". -/
def Guard (acc : List Item) (eol : Bool) : List Item → Prop
  | [] => True
  | it :: _ => it.kind ≠ 2 → popDoc acc eol = (none, acc)

/-- the tokens a printed file or item can begin with -/
def itemStart : Tk → Bool
  | .ident _ | .comment _ | .other "BracketL" | .other "At" | .other "Eof" => true
  | _ => false

theorem printOne_head (it : Item) (blank : Bool) (more : List Tk) : Begins itemStart (printOne it blank ++ more) := by
  cases it with
  | alias p a => cases p <;> exact .cons rfl _
  | assignment p a => cases p <;> cases hx : a.exported <;> simp only [printOne, printAssignment, hx] <;> exact .cons rfl _
  | comment c | «import» o p | module o n p d as | «set» s | unexport n => exact .cons rfl _
  | recipe doc attrs r =>
    have hh : Begins itemStart (printHeader r.header ++ (printBodyBlock r.body blank ++ more)) := by
      rw [printHeader_shape]; cases r.header.quiet <;> exact .cons rfl _
    have ha : Begins itemStart (printAttrs attrs ++ (printHeader r.header ++ (printBodyBlock r.body blank ++ more))) := by
      cases attrs with
      | nil => exact hh
      | cons a as => exact .cons rfl _
    simp only [printOne, List.append_assoc]
    cases hasAttr "doc" attrs
    · cases doc with
      | none => exact ha
      | some d => exact .cons rfl _
    · exact ha

theorem printItems_head (items : List Item) : Begins itemStart (printItems items ++ [tEof]) := by
  match items with
  | [] => exact .cons rfl _
  | [it] => exact printOne_head it false _
  | it :: nxt :: rest => rw [printItems, List.append_assoc]; exact printOne_head it _ _

theorem guard_next (it nxt : Item) (acc : List Item) (eol : Bool) (more : List Item) :
    Guard (it.forget :: acc) (eolAfter it (sepBlank it nxt) eol) (nxt :: more) := by
  intro hn
  cases it with
  | comment c =>
    -- a comment in front of another kind of item is followed by an empty line
    have : sepBlank (.comment c) nxt = true := by
      simp only [sepBlank, Item.isRecipe, Item.kind, Bool.false_or, bne_iff_ne, ne_eq]
      exact fun h => hn h.symm
    simp only [eolAfter, this]
    rfl
  | _ => simp only [popDoc, Item.forget, ite_self]

/-- **Round trip of the item loop**, from any state of the loop that satisfies `Guard`: three turns an item and one for the end. -/
theorem parseItems_rt (litLe : String → String → Bool) (F : Nat) : ∀ (items : List Item), (∀ it ∈ items, WFItem litLe it) →
    (∀ it ∈ items, ItemFuel (F + 2) it) → ∀ (acc : List Item) (eol : Bool), Guard acc eol items →
      parseItems litLe (F + 2) (3 * items.length + 1) acc eol (printItems items ++ [tEof]) = some (acc.reverse ++ items.map Item.forget)
  | [], _, _, acc, eol, _ => by
    simp only [printItems, List.nil_append, parseItems, step_eof litLe (F + 1) acc eol, List.map_nil, List.append_nil]
  | it :: items, hw, hf, acc, eol, hg => by
    obtain ⟨hwi, hws⟩ := List.forall_mem_cons.mp hw
    obtain ⟨hfi, hfs⟩ := List.forall_mem_cons.mp hf
    have ih := parseItems_rt litLe F items hws hfs (it.forget :: acc)
    match items, ih with
    | [], ih =>
      refine run_item F it false hwi hfi acc eol hg [tEof] (fun t h => by simp [tEof] at h) ?_
      simpa [printItems] using ih _ trivial
    | nxt :: rest, ih =>
      rw [printItems, List.append_assoc]
      refine run_item F it _ hwi hfi acc eol hg _ ((printItems_head _).ne rfl) ?_
      simpa using ih _ (guard_next it nxt acc eol rest)

/-- printing does not look at what `forget` removes: the formatted text is a fixed point -/
theorem printOne_forget (it : Item) (b : Bool) : printOne it.forget b = printOne it b := by
  cases it <;> rfl

theorem kind_forget (it : Item) : it.forget.kind = it.kind := by cases it <;> rfl

theorem isRecipe_forget (it : Item) : it.forget.isRecipe = it.isRecipe := by cases it <;> rfl

theorem sepBlank_forget (it nxt : Item) : sepBlank it.forget nxt.forget = sepBlank it nxt := by
  rw [sepBlank, sepBlank, kind_forget, kind_forget, isRecipe_forget]

theorem printItems_forget : ∀ items : List Item, printItems (items.map Item.forget) = printItems items
  | [] => rfl
  | [it] => printOne_forget it false
  | it :: nxt :: rest => by
    have ih := printItems_forget (nxt :: rest)
    simp only [List.map_cons, printItems] at ih ⊢
    rw [printOne_forget, sepBlank_forget, ih]

end Just.Ast
