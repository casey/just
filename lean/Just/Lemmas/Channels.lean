/-
Lemmas about `Just.Channels`: what `evaluate_parameters` binds and pushes.
-/
import Just.Model.Channels
namespace Just.Channels
open Just.Args Just.EnvExport

/-- every word is consumed: there is a variadic parameter or no more words than parameters
(what `ArgumentParser::parse_group` guarantees: C05 `group_arity`) -/
def Fits (qs : List NParam) (ws : List String) : Prop :=
  ws.length ≤ qs.length ∨ qs.any (fun q => q.p.isVariadic) = true

/-- the values bound are the ones `Args.bindArgs` (C05) computes -/
theorem evalParams_scope {qs : List NParam} {ws bound : List String} {sc : Scope} {pos : List String}
    (h : evalParams qs ws bound = some (sc, pos)) :
    sc.map (·.name) = qs.map (·.name) ∧ sc.map (·.exported) = qs.map (·.exported) ∧
      sc.all (fun b => !b.constant) = true ∧
      bindArgs (qs.map (·.p)) ws bound = .ok (bound ++ sc.map (·.value)) := by
  fun_induction evalParams qs ws bound generalizing sc pos with
  | case1 ws bound => cases h; cases ws <;> simp [bindArgs]
  | case4 => cases h
  | case2 q | case3 q | case5 q | case6 q =>
    rename_i ih
    obtain ⟨⟨sc', pos'⟩, h', he⟩ := Option.map_eq_some_iff.mp h
    cases he
    obtain ⟨h1, h2, h3, h4⟩ := ih h'
    refine ⟨congrArg (q.name :: ·) h1, congrArg (q.exported :: ·) h2, by rw [List.all_cons, h3]; rfl, ?_⟩
    simp +zetaDelta only [List.map_cons, bindArgs, *, if_true, if_false, List.append_assoc,
      List.singleton_append, mkBinding, Bool.false_eq_true]

theorem evalParams_positional {qs : List NParam} {ws bound : List String} {sc : Scope} {pos : List String}
    (hf : Fits qs ws) (h : evalParams qs ws bound = some (sc, pos)) : ∃ tail, pos = ws ++ tail := by
  fun_induction evalParams qs ws bound generalizing sc pos with
  | case1 ws => cases h; exact ⟨[], by simpa [Fits] using hf⟩
  | case2 | case3 => exact ⟨pos, rfl⟩
  | case4 => cases h
  | case5 =>
    obtain ⟨⟨sc', pos'⟩, -, he⟩ := Option.map_eq_some_iff.mp h
    cases he; exact ⟨pos', rfl⟩
  | case6 q qs w ws bound hv ih =>
    obtain ⟨⟨sc', pos'⟩, h', he⟩ := Option.map_eq_some_iff.mp h
    cases he
    obtain ⟨tail, rfl⟩ := ih (hf.imp (by simpa using ·) (by simpa [hv] using ·)) h'
    exact ⟨tail, rfl⟩

theorem evalParams_get {qs : List NParam} {ws bound : List String} {sc : Scope} {pos : List String}
    {i : Nat} (hq : i < qs.length) (hw : i < ws.length) (h : evalParams qs ws bound = some (sc, pos))
    (hsing : ∀ j (hj : j < qs.length), j < i → (qs[j]).p.isVariadic = false) :
    ∃ hs : i < sc.length, sc[i] = mkBinding qs[i]
      (if (qs[i]).p.isVariadic then joinWith " " (ws.drop i) else ws[i]) := by
  fun_induction evalParams qs ws bound generalizing sc pos i with
  | case1 => cases hq
  | case2 | case3 | case4 => cases hw
  | case5 q qs w ws bound hv =>
    obtain ⟨⟨sc', pos'⟩, -, he⟩ := Option.map_eq_some_iff.mp h
    cases he
    -- the first parameter is variadic, so it is the `i`-th
    obtain rfl : i = 0 := Nat.eq_zero_of_not_pos fun hi => Bool.noConfusion (hv.symm.trans (hsing 0 (Nat.succ_pos _) hi))
    exact ⟨Nat.succ_pos _, by simp +zetaDelta [hv]⟩
  | case6 q qs w ws bound hv ih =>
    obtain ⟨⟨sc', pos'⟩, h', he⟩ := Option.map_eq_some_iff.mp h
    cases he
    cases i with
    | zero => exact ⟨by simp, by simp [hv]⟩
    | succ i =>
      obtain ⟨hs, he⟩ := ih (by simpa using hq) (by simpa using hw) h'
        fun j hj hji => hsing (j + 1) (Nat.succ_lt_succ hj) (Nat.succ_lt_succ hji)
      exact ⟨by simpa using hs, by simpa using he⟩

end Just.Channels
