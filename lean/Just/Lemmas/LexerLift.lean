import Just.Lemmas.LexerHoare
/-
One calculus for every fact about the lexer of the shape "the state-changing primitives respect it,
hence so does every lexing function".  A `Spec` names a state invariant, a relation between the
states before and after a successful run, and a condition on the error of a failing run;
`Spec.Sound` says that `advance`, `token`, `setFrame` and the error sites meet it; `Obeys S m` is
then proved once per lexing function `m`, for every sound `S`.  The position invariant (`Preserves`,
Lemmas/Lexer), "no text is given back, no fuel error" (`Shrinks`, Lemmas/LexerTotal), "the indentation
stack is kept" (`KS`) and "no assertion fails" (`NA0`, both at the end of this file) are instances.
-/
namespace Just.Lexer

structure Spec where
  inv : St → Prop
  rel : St → St → Prop
  err : Err → Prop
  refl : ∀ s, rel s s
  trans : ∀ {a b c}, rel a b → rel b c → rel a c

variable {S : Spec} {α β : Type}

abbrev Obeys (S : Spec) (m : M α) : Prop := Triple S.inv m (fun s _ s' => S.inv s' ∧ S.rel s s') fun _ => S.err

def assertMsgs : List String :=
  ["lex_dedent: token in progress", "assert token_start = token_end", "assert token_start = src.len()",
   "assert indentation.len() = 1"]

/-- the error is one of the lexer's `assert_eq!` failures -/
def ErrKind.isAssert : ErrKind → Bool
  | .internal m => assertMsgs.contains m
  | _ => false

/-- `S` is met by the primitives as the token-level functions use them: frames that keep the
indentation stack, internal errors that are no assertion failure. -/
structure Spec.Sound (S : Spec) : Prop where
  advance : Obeys S advance
  token : ∀ k, Obeys S (token k)
  setFrame : ∀ f, (∀ s, (f s).indentation = s.indentation) → Obeys S (setFrame f)
  error : ∀ k s, S.inv s → k.isDiagnostic = true → S.err (mkError k s)
  internal : ∀ msg s, S.inv s → (ErrKind.internal msg).isAssert = false → S.err (internalError msg s)
  unterminated : ∀ s t, S.inv s → t ∈ s.interp → S.err { kind := .unterminatedInterpolation, tok := t }

/-- … and as the line-start and dedent functions use them -/
structure Spec.SoundAll (S : Spec) : Prop extends S.Sound where
  setFrameAny : ∀ f, Obeys S (Lexer.setFrame f)
  internalAny : ∀ msg s, S.inv s → S.err (internalError msg s)

theorem Obeys.pure {a : α} : Obeys S (pure a : M α) := Triple.pure fun s hs => ⟨hs, S.refl s⟩

theorem Obeys.bind {x : M α} {f : α → M β} (hx : Obeys S x) (hf : ∀ a, Obeys S (f a)) : Obeys S (x >>= f) :=
  Triple.bind hx fun _ a _ => (hf a).conseq (fun _ h' => h'.1) (fun _ _ _ h1 h2 => ⟨h2.1, S.trans h1.2 h2.2⟩) fun _ _ _ he => he

theorem Obeys.getBind {f : St → M β} (hf : ∀ s0, S.inv s0 → Obeys S (f s0)) : Obeys S (get >>= f) :=
  Triple.getBind fun s hs => (hf s hs).pre fun _ h => h ▸ hs

theorem Obeys.ite {c : Prop} [Decidable c] {x y : M α} (hx : Obeys S x) (hy : Obeys S y) :
    Obeys S (if c then x else y) :=
  Triple.ite (fun _ => hx) fun _ => hy

section token_level
variable (h : S.Sound)
include h

theorem Spec.Sound.failError {k : ErrKind} (hk : k.isDiagnostic = true) : Obeys S (failWith (mkError k) : M α) :=
  Triple.failWith fun s hs => h.error k s hs hk

theorem Spec.Sound.failInternal {msg : String} (hm : (ErrKind.internal msg).isAssert = false) :
    Obeys S (failWith (internalError msg) : M α) :=
  Triple.failWith fun s hs => h.internal msg s hs hm

theorem Spec.Sound.presume (c : Char) : Obeys S (presume c) :=
  .getBind fun _ _ => .ite h.advance (h.failInternal (by simp [ErrKind.isAssert, assertMsgs]))

theorem Spec.Sound.accepted (c : Char) : Obeys S (accepted c) :=
  .getBind fun _ _ => .ite (.bind h.advance fun _ => .pure) .pure

theorem Spec.Sound.presumeStr (cs : List Char) : Obeys S (presumeStr cs) := by
  induction cs with
  | nil => exact .pure
  | cons c cs ih => exact .bind (h.presume c) fun _ => ih

theorem Spec.Sound.advanceWhileAux (p : Char → Bool) (cs : List Char) : Obeys S (advanceWhileAux p cs) := by
  induction cs with
  | nil => exact .pure
  | cons c cs ih => exact .ite (.bind h.advance fun _ => ih) .pure

theorem Spec.Sound.advanceWhile (p : Char → Bool) : Obeys S (advanceWhile p) :=
  .getBind fun _ _ => h.advanceWhileAux p _

theorem Spec.Sound.advanceN (n : Nat) : Obeys S (advanceN n) := by
  induction n with
  | zero => exact .pure
  | succ n ih => exact .bind h.advance fun _ => ih

theorem Spec.Sound.lexSingle (k : Kind) : Obeys S (lexSingle k) := .bind h.advance fun _ => h.token k
theorem Spec.Sound.lexDouble (k : Kind) : Obeys S (lexDouble k) := .bind h.advance fun _ => h.lexSingle k
theorem Spec.Sound.lexWhitespace : Obeys S lexWhitespace := .bind (h.advanceWhile _) fun _ => h.token _

theorem Spec.Sound.advanceToEolAux (cs : List Char) : Obeys S (advanceToEolAux cs) := by
  induction cs with
  | nil => exact .pure
  | cons c cs ih => exact .ite .pure (.bind h.advance fun _ => ih)

/-- The functions that begin by consuming a character are walked in this form: the walk of the tail also shows that they
consume (`Spec.Begins.ate`, Lemmas/LexerTotal). -/
def Spec.Begins (S : Spec) (x : M Unit) (m : M α) : Prop := ∃ f : Unit → M α, m = x >>= f ∧ ∀ a, Obeys S (f a)

omit h in
theorem Spec.Begins.obeys {x : M Unit} {m : M α} (hm : S.Begins x m) (hx : Obeys S x) : Obeys S m := by
  obtain ⟨f, rfl, hf⟩ := hm
  exact .bind hx hf

theorem Spec.Sound.lexComment' : S.Begins (Lexer.presume '#') lexComment :=
  ⟨_, rfl, fun _ => .getBind fun _ _ => .bind (h.advanceToEolAux _) fun _ => h.token _⟩

theorem Spec.Sound.lexIdentifier' : S.Begins Lexer.advance lexIdentifier :=
  ⟨_, rfl, fun _ => .bind (h.advanceWhile _) fun _ => h.token _⟩

theorem Spec.Sound.lexIdentifier : Obeys S lexIdentifier := h.lexIdentifier'.obeys h.advance

theorem Spec.Sound.openDelimiter (d : Delim) : Obeys S (openDelimiter d) := h.setFrame _ fun _ => rfl

theorem Spec.Sound.closeDelimiter (d : Delim) : Obeys S (closeDelimiter d) := by
  unfold Lexer.closeDelimiter
  refine .getBind fun _ _ => ?_
  split
  · exact .bind (h.setFrame _ fun _ => rfl) fun _ => .ite .pure (h.failError rfl)
  · exact h.failError rfl

theorem Spec.Sound.delimiterAction (k : Kind) (hk : isDelimiterKind k = true) : Obeys S (delimiterAction k) :=
  delimiterAction_cases (P := fun m => Obeys S m) h.openDelimiter h.closeDelimiter k hk

theorem Spec.Sound.lexDelimiter (k : Kind) (hk : isDelimiterKind k = true) : Obeys S (lexDelimiter k) :=
  .bind (h.delimiterAction k hk) fun _ => h.lexSingle k

theorem Spec.Sound.unexpectedSecond : Obeys S unexpectedSecond :=
  .bind (h.token _) fun _ => .getBind fun _ _ => .ite (h.failError rfl) (.bind h.advance fun _ => h.failError rfl)

theorem Spec.Sound.tryChoices (cs : List (Char × Kind)) : Obeys S (tryChoices cs) := by
  induction cs with
  | nil => exact .pure
  | cons c cs ih => exact .bind (h.accepted _) fun _ => .ite (.bind (h.token _) fun _ => .pure) ih

theorem Spec.Sound.lexChoices' (f : Char) (cs : List (Char × Kind)) (o : Option Kind) :
    S.Begins (Lexer.presume f) (lexChoices f cs o) := by
  refine ⟨_, rfl, fun _ => .bind (h.tryChoices cs) fun _ => .ite .pure ?_⟩
  split
  · exact h.token _
  · exact h.unexpectedSecond

theorem Spec.Sound.lexDigraph' (l r : Char) (k : Kind) : S.Begins (Lexer.presume l) (lexDigraph l r k) :=
  ⟨_, rfl, fun _ => .bind (h.accepted r) fun _ => .ite (h.token k) h.unexpectedSecond⟩

theorem Spec.Sound.lexColon' : S.Begins (Lexer.presume ':') lexColon :=
  ⟨_, rfl, fun _ => .bind (h.accepted _) fun _ => .ite (h.token _) <| .bind (h.accepted _) fun _ => .ite (h.token _) <|
    .bind (h.token _) fun _ => h.setFrame _ fun _ => rfl⟩

theorem Spec.Sound.lexEscape' : S.Begins (Lexer.presume '\\') lexEscape := by
  refine ⟨_, rfl, fun _ => .bind (h.accepted _) fun _ => .ite h.lexWhitespace <| .bind (h.accepted _) fun _ =>
    .ite (.bind (h.accepted _) fun _ => .ite (h.failError rfl) h.lexWhitespace) <| .getBind fun _ _ => ?_⟩
  split
  · exact h.failError rfl
  · exact h.token _

theorem Spec.Sound.lexEolTail : Obeys S (do
    if !(← Lexer.accepted '\n') then failWith (mkError .unpairedCarriageReturn) else pure () : M Unit) :=
  .bind (h.accepted _) fun _ => .ite (h.failError rfl) .pure

theorem Spec.Sound.lexEolHead : Obeys S lexEolHead :=
  .bind (h.accepted _) fun _ => .ite h.lexEolTail (h.presume _)

theorem Spec.Sound.lexEol' : S.Begins Lexer.lexEolHead lexEol :=
  ⟨_, rfl, fun _ => .getBind fun _ _ => .ite (h.token _) (h.token _)⟩

theorem Spec.Sound.stringLoop (d : List Char) (e : Bool) (k : ErrKind) (hk : k.isDiagnostic = true) (cs : List Char)
    (esc : Bool) : Obeys S (stringLoop d e k cs esc) := by
  induction cs generalizing esc with
  | nil => exact h.failError hk
  | cons c cs ih => exact .ite (.bind h.advance fun _ => ih _) <| .ite .pure (.bind h.advance fun _ => ih _)

theorem Spec.Sound.lexStringTail (d : List Char) (e : Bool) (kind : Kind) : Obeys S (do
    let s1 ← get
    Lexer.stringLoop d e (stringErrKind kind) s1.rest false
    Lexer.presumeStr d
    Lexer.token kind) :=
  .getBind fun _ _ => .bind (h.stringLoop d e _ ((stringErrKind_cases kind).elim (· ▸ rfl) (· ▸ rfl)) _ _) fun _ =>
    .bind (h.presumeStr d) fun _ => h.token kind

theorem Spec.Sound.lexString : Obeys S lexString := by
  unfold Lexer.lexString
  refine .getBind fun _ _ => ?_
  split
  · exact .bind h.advance fun _ => h.failInternal (by simp [ErrKind.isAssert, assertMsgs])
  · exact .bind (h.presumeStr _) fun _ => h.lexStringTail _ _ _

theorem Spec.Sound.lexOther (s : St) (c : Char) : Obeys S (lexOther s c) :=
  have hp : ∀ {m : M Unit}, S.Begins (Lexer.presume c) m → Obeys S m := fun hm => hm.obeys (h.presume c)
  lexOther_cases (P := fun m => Obeys S m) s c (h.failError rfl) (fun cs o => hp (h.lexChoices' c cs o))
    (fun hc => hp (hc ▸ h.lexComment')) h.lexSingle (fun k => hp (h.lexDigraph' c c k)) h.lexDelimiter
    (fun hc => hp (hc ▸ h.lexColon')) (fun hc => hp (hc ▸ h.lexEscape')) (fun _ => h.lexEol'.obeys h.lexEolHead)
    (fun _ => h.lexString) (fun _ => h.lexIdentifier) (.bind h.advance fun _ => h.failError rfl)

theorem Spec.Sound.lexNormal (c : Char) : Obeys S (lexNormal c) :=
  .getBind fun s _ => .ite h.lexWhitespace (h.lexOther s c)

theorem Spec.Sound.lexInterpolation (t : Tok) (c : Char) (ht : S.err { kind := .unterminatedInterpolation, tok := t }) :
    Obeys S (lexInterpolation t c) := by
  unfold Lexer.lexInterpolation
  refine .getBind fun _ _ => .ite ?_ (.ite (Triple.throw fun _ => ht) (h.lexNormal c))
  split
  · exact .bind h.advance fun _ => .bind h.advance fun _ => h.failInternal (by simp [ErrKind.isAssert, assertMsgs])
  · exact .bind (h.setFrame _ fun _ => rfl) fun _ => h.lexDouble _

theorem Spec.Sound.bodyLoop (cs : List Char) (n : Nat) : Obeys S (bodyLoop cs n) := by
  induction cs generalizing n with
  | nil => exact .pure
  | cons c cs ih =>
    have step : ∀ n, Obeys S (do Lexer.advance; Lexer.bodyLoop cs n) := fun n => .bind h.advance fun _ => ih n
    exact .ite (step _) <| .ite (step _) <| .ite .pure <| .ite .pure <| .ite .pure (step _)

theorem Spec.Sound.flushText : Obeys S flushText := .getBind fun _ _ => .ite (h.token _) .pure

theorem Spec.Sound.pushInterpolation : Obeys S pushInterpolation := by
  unfold Lexer.pushInterpolation
  refine .getBind fun _ _ => ?_
  split
  · exact h.setFrame _ fun _ => rfl
  · exact h.failInternal (by simp [ErrKind.isAssert, assertMsgs])

theorem Spec.Sound.bodyTerminator (t : Terminator) : Obeys S (bodyTerminator t) := by
  cases t with
  | endOfFile => exact .pure
  | newline => exact h.lexSingle _
  | newlineCarriageReturn => exact h.lexDouble _
  | interpolation => exact .bind (h.lexDouble _) fun _ => h.pushInterpolation

theorem Spec.Sound.lexBody : Obeys S lexBody :=
  .getBind fun _ _ => .bind (h.bodyLoop _ _) fun t => .bind h.flushText fun _ => h.bodyTerminator t

theorem Spec.Sound.dispatch (c : Char) : Obeys S (dispatch c) := by
  unfold Lexer.dispatch
  refine .getBind fun s0 h0 => ?_
  split
  · rename_i istart _ hi
    exact h.lexInterpolation _ _ (h.unterminated s0 istart h0 (by simp [hi]))
  · exact .ite h.lexBody (h.lexNormal c)

end token_level

section all
variable (h : S.SoundAll)
include h

theorem Spec.SoundAll.lexDedent : Obeys S lexDedent :=
  .getBind fun _ _ => .ite (Triple.failWith fun s hs => h.internalAny _ s hs) <|
    .bind (h.token _) fun _ => h.setFrameAny _

theorem Spec.SoundAll.dedentUntil (ws : List Char) (st : List (List Char)) : Obeys S (dedentUntil ws st) := by
  induction st with
  | nil => exact .pure
  | cons c cs ih => exact .ite .pure (.bind h.lexDedent fun _ => ih)

theorem Spec.SoundAll.dedentAll (st : List (List Char)) : Obeys S (dedentAll st) :=
  dedentAll_eq st ▸ h.dedentUntil [] st

theorem Spec.SoundAll.lexLineStart : Obeys S lexLineStart := by
  have hW : Obeys S (do advanceWhile isBlankChar; token .whitespace : M Unit) := h.lexWhitespace
  unfold Lexer.lexLineStart
  refine .getBind fun _ _ => ?_
  split
  · exact .ite hW .pure
  · exact .ite (.bind (h.advanceN _) fun _ => h.token _) .pure
  · exact .bind (h.dedentUntil _ _) fun _ => .ite hW .pure
  · exact .bind (h.advanceN _) fun _ => h.failError rfl
  · exact .bind (h.advanceN _) fun _ => h.failError rfl
  · exact .bind (h.advanceWhile _) fun _ => .getBind fun _ _ => .ite (h.token _) <|
      .bind (h.setFrameAny _) fun _ => .bind (h.token _) fun _ => h.setFrameAny _

theorem Spec.SoundAll.lineStartIfNeeded : Obeys S lineStartIfNeeded :=
  .getBind fun _ _ => .ite h.lexLineStart .pure

theorem Spec.SoundAll.stepMain : Obeys S stepMain := by
  unfold Lexer.stepMain
  refine .bind h.lineStartIfNeeded fun _ => .getBind fun _ _ => ?_
  split
  · exact .pure
  · exact .bind (h.dispatch _) fun _ => .pure

theorem Spec.SoundAll.finish : Obeys S finish := by
  unfold Lexer.finish
  refine .getBind fun s0 h0 => ?_
  split
  · rename_i istart _ hi
    exact Triple.throw fun _ => h.unterminated s0 istart h0 (by simp [hi])
  · exact .bind (h.dedentAll _) fun _ => h.token _

end all

/-! ### the indentation stack is only touched by dedents and by `lex_line_start` -/

/-- `KS m`: `m` keeps the indentation stack; statement form of the lemmas `KS.*` below, which are instances of `stackSound`. -/
structure KS {α : Type} (m : M α) : Prop where
  run : ∀ s a s', m s = .ok (a, s') → s'.indentation = s.indentation

def stackSpec : Spec := ⟨fun _ => True, fun s s' => s'.indentation = s.indentation, fun _ => True, fun _ => rfl, fun h1 h2 => h2.trans h1⟩

theorem ks_iff {α : Type} {m : M α} : KS m ↔ Obeys stackSpec m :=
  ⟨fun h => triple_iff.2 ⟨fun s a s' _ he => ⟨trivial, h.run s a s' he⟩, fun _ _ _ _ => trivial⟩,
   fun h => ⟨fun _ _ _ he => (h.ok trivial he).2⟩⟩

theorem stackSound : stackSpec.Sound where
  advance := advance_any.conseq (fun _ h => h) (fun _ _ _ _ ⟨_, h⟩ => ⟨trivial, h.same.indentation⟩) fun _ _ _ _ => trivial
  token _ := fun _ _ => ⟨trivial, rfl⟩
  setFrame f hf := (setFrame_any f).conseq (fun _ h => h) (fun s _ _ _ h => ⟨trivial, h ▸ hf s⟩) fun _ _ _ _ => trivial
  error _ _ _ _ := trivial
  internal _ _ _ _ := trivial
  unterminated _ _ _ _ := trivial

theorem KS.advance : KS Lexer.advance := ks_iff.2 stackSound.advance
theorem KS.presume (c : Char) : KS (presume c) := ks_iff.2 (stackSound.presume c)
theorem KS.accepted (c : Char) : KS (accepted c) := ks_iff.2 (stackSound.accepted c)
theorem KS.advanceWhile (p : Char → Bool) : KS (advanceWhile p) := ks_iff.2 (stackSound.advanceWhile p)
theorem KS.lexIdentifier : KS lexIdentifier := ks_iff.2 stackSound.lexIdentifier
theorem KS.dispatch (c : Char) : KS (Lexer.dispatch c) := ks_iff.2 (stackSound.dispatch c)

/-! ### failing runs: none of the four assertion failures (outside the dedent family) -/

/-- `NA0 m`: no assertion failure under no (0) hypothesis, from whatever state `m` runs; statement form of the lemmas `NA0.*`
below, which are instances of `assertSound`. -/
structure NA0 {α : Type} (m : M α) : Prop where
  run : ∀ s e, m s = .error e → e.kind.isAssert = false

def assertSpec : Spec := ⟨fun _ => True, fun _ _ => True, fun e => e.kind.isAssert = false, fun _ => trivial, fun _ _ => trivial⟩

theorem na0_iff {α : Type} {m : M α} : NA0 m ↔ Obeys assertSpec m :=
  ⟨fun h => triple_iff.2 ⟨fun _ _ _ _ _ => ⟨trivial, trivial⟩, fun s e _ he => h.run s e he⟩,
   fun h => ⟨fun _ _ he => h.err trivial he⟩⟩

theorem assertSound : assertSpec.Sound :=
  have int : ∀ {msg : String} {s : St}, (ErrKind.internal msg).isAssert = false → assertSpec.err (internalError msg s) := id
  { advance := advance_any.conseq (fun _ h => h) (fun _ _ _ _ _ => ⟨trivial, trivial⟩) fun _ _ _ h =>
      h.2 ▸ int (by simp [ErrKind.isAssert, assertMsgs])
    token := fun _ _ _ => ⟨trivial, trivial⟩
    setFrame := fun f _ => (setFrame_any f).conseq (fun _ h => h) (fun _ _ _ _ _ => ⟨trivial, trivial⟩) fun _ _ _ h =>
      h.2 ▸ int (by simp [ErrKind.isAssert, assertMsgs])
    error := fun k s _ hk => by
      rcases mkError_cases k s with ⟨_, _, _, h⟩ | ⟨_, _, h⟩ <;> rw [h]
      · cases k <;> first | rfl | cases hk
      · exact int (by simp [ErrKind.isAssert, assertMsgs])
    internal := fun _ _ _ h => h
    unterminated := fun _ _ _ _ => rfl }

theorem NA0.advance : NA0 Lexer.advance := na0_iff.2 assertSound.advance
theorem NA0.presume (c : Char) : NA0 (presume c) := na0_iff.2 (assertSound.presume c)
theorem NA0.accepted (c : Char) : NA0 (accepted c) := na0_iff.2 (assertSound.accepted c)
theorem NA0.advanceWhile (p : Char → Bool) : NA0 (advanceWhile p) := na0_iff.2 (assertSound.advanceWhile p)
theorem NA0.lexIdentifier : NA0 lexIdentifier := na0_iff.2 assertSound.lexIdentifier
theorem NA0.dispatch (c : Char) : NA0 (Lexer.dispatch c) := na0_iff.2 (assertSound.dispatch c)

end Just.Lexer
