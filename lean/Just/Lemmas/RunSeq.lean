/-
Sequencing in `Res`.  Every function of the runner is a chain of steps "run this; on an error stop
with the events so far; otherwise go on and append".  `andThen` names that step and each function
has its equation in that form; invariants and simulations are lifted through `andThen` by one
closure lemma each.
-/
import Just.Model.Run
namespace Just.Run

/-- `f` also receives the events of `x`: the prompt count is threaded through them -/
def andThen {α β : Type} (x : Res α) (f : List Ev → α → Res β) : Res β :=
  match x with
  | (e1, .error e) => (e1, .error e)
  | (e1, .ok a) => (e1 ++ (f e1 a).1, (f e1 a).2)

@[simp] theorem andThen_error {α β : Type} (e1 : List Ev) (e : Err) (f : List Ev → α → Res β) :
    andThen (e1, .error e) f = (e1, .error e) := rfl

@[simp] theorem andThen_ok {α β : Type} (e1 : List Ev) (a : α) (f : List Ev → α → Res β) :
    andThen (e1, .ok a) f = (e1 ++ (f e1 a).1, (f e1 a).2) := rfl

theorem andThen_eq_ok {α β : Type} {x : Res α} {f : List Ev → α → Res β} {es : List Ev} {b : β} :
    andThen x f = (es, .ok b) ↔
      ∃ e1 a e2, x = (e1, .ok a) ∧ f e1 a = (e2, .ok b) ∧ es = e1 ++ e2 := by
  obtain ⟨e1, e | a⟩ := x
  · simp
  · simp only [andThen_ok, Prod.mk.injEq, Except.ok.injEq]
    constructor
    · rintro ⟨rfl, h⟩; exact ⟨e1, a, _, ⟨rfl, rfl⟩, Prod.ext rfl h, rfl⟩
    · rintro ⟨_, _, e2, ⟨rfl, rfl⟩, h, rfl⟩; rw [h]; exact ⟨rfl, rfl⟩

/-- what the leaf functions can emit; the other two events, the prompt and the body label, are `runRecipe`'s own -/
def Ev.isLeaf : Ev → Bool
  | .bt _ => true
  | .echo _ => true
  | .spawn _ _ _ => true
  | .script _ _ _ => true
  | .prompt _ => false
  | .body _ _ _ => false

def promptOf (cfg : Cfg) (r : Recipe) (ri : Nat) : List Ev :=
  if r.confirm && !cfg.yes then [Ev.prompt ri] else []

section
variable (cfg : Cfg) (env : Env)

theorem evalA_cat (ps : Args) (a b : AExpr) : evalA cfg env ps (.cat a b) =
    andThen (evalA cfg env ps a) fun _ x => andThen (evalA cfg env ps b) fun _ y => ([], .ok (x ++ y)) := by
  simp only [evalA]
  obtain ⟨e1, _ | x⟩ := evalA cfg env ps a
  · rfl
  · obtain ⟨e2, _ | y⟩ := evalA cfg env ps b <;> simp

theorem evalList_cons (ps : Args) (a : AExpr) (as : List AExpr) : evalList cfg env ps (a :: as) =
    andThen (evalA cfg env ps a) fun _ x => andThen (evalList cfg env ps as) fun _ xs => ([], .ok (x :: xs)) := by
  simp only [evalList]
  obtain ⟨e1, _ | x⟩ := evalA cfg env ps a
  · rfl
  · obtain ⟨e2, _ | y⟩ := evalList cfg env ps as <;> simp

theorem bindParams_default (d : AExpr) (ps : List (Option AExpr)) (bound : Args) :
    bindParams cfg env (some d :: ps) [] bound =
      andThen (evalA cfg env bound d) fun _ v => bindParams cfg env ps [] (bound ++ [v]) := by
  simp only [bindParams]
  obtain ⟨e1, _ | v⟩ := evalA cfg env bound d <;> rfl

def execEv {α : Type} (ev : Ev) (c : String) (stop : Bool) (a : α) : Res α :=
  match (env.status c).toErr with
  | none => ([ev], .ok a)
  | some e => ([ev], if stop then .error e else .ok a)

theorem evalA_bt (ps : Args) (c : String) : evalA cfg env ps (.bt c) =
    if cfg.dryRun then ([], .ok ("`" ++ c ++ "`")) else execEv env (.bt c) c true (env.btOut c) := by
  simp only [evalA, execEv]
  split
  · rfl
  · cases (env.status c).toErr <;> rfl

theorem runCmd_eq (ri : Nat) (r : Recipe) (given : Args) (l : Line) (cmd : String) :
    runCmd cfg env ri r given l cmd =
      andThen (if echoes cfg r l then [Ev.echo cmd] else [], .ok ()) fun _ _ =>
        if cfg.dryRun then ([], .ok ()) else execEv env (.spawn ri given cmd) cmd (!l.infallible) () := by
  unfold runCmd execEv
  by_cases hd : cfg.dryRun = true
  · simp [hd]
  · cases (env.status cmd).toErr <;> cases l.infallible <;> simp [hd]

theorem runLines_cons (ri : Nat) (r : Recipe) (given ps : Args) (l : Line) (ls : List Line) :
    runLines cfg env ri r given ps (l :: ls) =
      andThen (evalList cfg env ps l.frags) fun _ parts =>
        if concat parts = "" then runLines cfg env ri r given ps ls
        else andThen (runCmd cfg env ri r given l (concat parts)) fun _ _ =>
          runLines cfg env ri r given ps ls := by
  simp only [runLines]
  obtain ⟨e1, _ | parts⟩ := evalList cfg env ps l.frags
  · rfl
  · simp only [andThen_ok]
    split
    · rfl
    · obtain ⟨e2, _ | _⟩ := runCmd cfg env ri r given l (concat parts) <;> simp

theorem evalLines_cons (ps : Args) (l : Line) (ls : List Line) : evalLines cfg env ps (l :: ls) =
    andThen (evalList cfg env ps l.frags) fun _ parts =>
      andThen (evalLines cfg env ps ls) fun _ rest => ([], .ok (concat parts :: rest)) := by
  simp only [evalLines]
  obtain ⟨e1, _ | x⟩ := evalList cfg env ps l.frags
  · rfl
  · obtain ⟨e2, _ | y⟩ := evalLines cfg env ps ls <;> simp

def scriptTail (ri : Nat) (r : Recipe) (given : Args) (lines : List String) : Res Unit :=
  andThen (if !cfg.quiet && (cfg.dryRun || r.quiet) then lines.map Ev.echo else [], .ok ()) fun _ _ =>
    if cfg.dryRun then ([], .ok ())
    else execEv env (.script ri given (joinLines lines)) (joinLines lines) true ()

theorem runScript_eq (ri : Nat) (r : Recipe) (given ps : Args) : runScript cfg env ri r given ps =
    andThen (evalLines cfg env ps r.body) fun _ lines => scriptTail cfg env ri r given lines := by
  unfold runScript scriptTail execEv
  obtain ⟨e1, _ | lines⟩ := evalLines cfg env ps r.body
  · rfl
  · by_cases hd : cfg.dryRun = true
    · simp [hd]
    · cases h : (env.status (joinLines lines)).toErr <;> simp [hd, h]

theorem runAssigns_cons (c : String) (cs : List String) : runAssigns cfg env (c :: cs) =
    andThen (evalA cfg env [] (.bt c)) fun _ _ => runAssigns cfg env cs := by
  simp only [runAssigns]
  obtain ⟨e1, _ | x⟩ := evalA cfg env [] (.bt c) <;> rfl

end

variable (P : Prog) (cfg : Cfg) (env : Env)

def confirmStep (r : Recipe) (ri k : Nat) : Res Unit :=
  (promptOf cfg r ri, if (r.confirm && !cfg.yes) && !env.ans k then .error .notConfirmed else .ok ())

def runFound (fuel : Nat) (sub : Bool) (ri : Nat) (r : Recipe) (given : Args) (ran : Ran) (k : Nat) : Res Ran :=
  andThen (confirmStep cfg env r ri k) fun e0 _ =>
  andThen (bindParams cfg env r.params given []) fun _ ps =>
  andThen (runDeps P cfg env fuel sub r.priors ps ran (k + countPrompts e0)) fun e2 ran1 =>
  andThen ([.body ri given sub], .ok ()) fun _ _ =>
  andThen (runBody cfg env ri r given ps) fun _ _ =>
  andThen (runDeps P cfg env fuel true r.subs ps [] (k + countPrompts e0 + countPrompts e2)) fun _ _ =>
  ([], .ok ((ri, given) :: ran1))

theorem runRecipe_zero (sub : Bool) (ri : Nat) (given : Args) (ran : Ran) (k : Nat) :
    runRecipe P cfg env 0 sub ri given ran k = ([], .error .fuel) := by
  rw [runRecipe]

theorem runRecipe_succ (fuel : Nat) (sub : Bool) (ri : Nat) (given : Args) (ran : Ran) (k : Nat) :
    runRecipe P cfg env (fuel + 1) sub ri given ran k =
      if (ri, given) ∈ ran then ([], .ok ran) else
      match P.recipes[ri]? with
      | none => ([], .error .internal)
      | some r => runFound P cfg env fuel sub ri r given ran k := by
  rw [runRecipe]
  split
  · rfl
  · cases P.recipes[ri]? with
    | none => rfl
    | some r =>
      simp only [runFound, confirmStep]
      rw [show (if (r.confirm && !cfg.yes) = true then [Ev.prompt ri] else []) = promptOf cfg r ri from rfl]
      generalize promptOf cfg r ri = e0
      split
      · rfl
      · obtain ⟨e1, _ | ps⟩ := bindParams cfg env r.params given []
        · simp
        · simp only [andThen_ok]
          obtain ⟨e2, _ | ran1⟩ := runDeps P cfg env fuel sub r.priors ps ran (k + countPrompts e0)
          · simp
          · simp only [andThen_ok]
            obtain ⟨e3, _ | _⟩ := runBody cfg env ri r given ps
            · simp
            · simp only [andThen_ok]
              obtain ⟨e4, _ | _⟩ := runDeps P cfg env fuel true r.subs ps [] (k + countPrompts e0 + countPrompts e2) <;> simp

theorem runDeps_nil (fuel : Nat) (sub : Bool) (ps : Args) (ran : Ran) (k : Nat) :
    runDeps P cfg env fuel sub [] ps ran k = ([], .ok ran) := by rw [runDeps]

theorem runDeps_cons (fuel : Nat) (sub : Bool) (d : Dep) (ds : List Dep) (ps : Args) (ran : Ran) (k : Nat) :
    runDeps P cfg env fuel sub (d :: ds) ps ran k =
      if cfg.noDeps then ([], .ok ran) else
      andThen (evalList cfg env ps d.args) fun _ given =>
      andThen (runRecipe P cfg env fuel sub d.target given ran k) fun e2 ran1 =>
      runDeps P cfg env fuel sub ds ps ran1 (k + countPrompts e2) := by
  rw [runDeps]
  split
  · rfl
  · obtain ⟨e1, _ | given⟩ := evalList cfg env ps d.args
    · rfl
    · simp only [andThen_ok]
      obtain ⟨e2, _ | ran1⟩ := runRecipe P cfg env fuel sub d.target given ran k <;> simp

theorem runInvs_cons (fuel ri : Nat) (given : Args) (rest : List Key) (ran : Ran) (k : Nat) :
    runInvs P cfg env fuel ((ri, given) :: rest) ran k =
      andThen (runRecipe P cfg env fuel false ri given ran k) fun e1 ran1 =>
        runInvs P cfg env fuel rest ran1 (k + countPrompts e1) := by
  simp only [runInvs]
  obtain ⟨e1, _ | ran1⟩ := runRecipe P cfg env fuel false ri given ran k <;> rfl

theorem runMain_eq (invs : List Key) : runMain P cfg env invs =
    let x := andThen (runAssigns cfg env P.assigns) fun _ _ => runInvs P cfg env (P.recipes.length + 1) invs [] 0
    (x.1, match x.2 with | .error e => e.exit | .ok _ => 0) := by
  simp only [runMain]
  obtain ⟨e1, _ | _⟩ := runAssigns cfg env P.assigns
  · rfl
  · obtain ⟨e2, _ | _⟩ := runInvs P cfg env (P.recipes.length + 1) invs [] 0 <;> rfl

end Just.Run
