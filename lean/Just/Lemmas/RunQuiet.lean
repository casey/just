import Just.Lemmas.RunSim
import Just.Lemmas.RunLeaf
/-
`--quiet`, `--verbose` and `set quiet` change what is echoed, never what is executed or how the run ends.
-/
namespace Just.Run

def noEcho : List Ev → List Ev
  | [] => []
  | .echo _ :: es => noEcho es
  | e :: es => e :: noEcho es

@[simp] theorem noEcho_nil : noEcho [] = [] := rfl

@[simp] theorem noEcho_append (a b : List Ev) : noEcho (a ++ b) = noEcho a ++ noEcho b := by
  induction a with
  | nil => rfl
  | cons e es ih => cases e <;> simp [noEcho, ih]

theorem noEcho_of_echoes {es : List Ev} (h : Echoes es) : noEcho es = [] := by
  induction es with
  | nil => rfl
  | cons e es ih =>
    obtain ⟨t, rfl⟩ := h e (List.mem_cons_self ..)
    exact ih fun ev hev => h ev (List.mem_cons_of_mem _ hev)

theorem countPrompts_noEcho (es : List Ev) : countPrompts (noEcho es) = countPrompts es := by
  induction es with
  | nil => rfl
  | cons e es ih => cases e <;> simp [noEcho, countPrompts, ih]

theorem countPrompts_eq_of_noEcho {a b : List Ev} (h : noEcho a = noEcho b) : countPrompts a = countPrompts b := by
  rw [← countPrompts_noEcho a, ← countPrompts_noEcho b, h]

structure SameButEcho (cfg cfg' : Cfg) : Prop where
  dry : cfg'.dryRun = cfg.dryRun
  yes : cfg'.yes = cfg.yes
  noDeps : cfg'.noDeps = cfg.noDeps

def SameExec (a b : List Ev) : Prop := noEcho a = noEcho b

theorem sameExec : EvRel SameExec where
  nil := rfl
  append h1 h2 := by unfold SameExec at *; rw [noEcho_append, noEcho_append, h1, h2]
  prompts := countPrompts_eq_of_noEcho

theorem Sim.of_eq {α : Type} {x y : Res α} (h : x = y) : Sim SameExec x y := h ▸ ⟨rfl, rfl⟩

theorem Sim.echoOnly {a b : List Ev} (ha : Echoes a) (hb : Echoes b) :
    Sim SameExec (a, (.ok () : Except Err Unit)) (b, .ok ()) :=
  ⟨rfl, by unfold SameExec; rw [noEcho_of_echoes ha, noEcho_of_echoes hb]⟩

variable {cfg cfg' : Cfg} (h : SameButEcho cfg cfg')
include h

theorem evalA_same (env : Env) (ps : Args) (a : AExpr) : evalA cfg' env ps a = evalA cfg env ps a := by
  induction a with
  | lit s => rfl
  | param i => rfl
  | cat a b iha ihb => simp only [evalA, iha, ihb]
  | bt c => simp only [evalA, h.dry]

theorem bindParams_same (env : Env) (params : List (Option AExpr)) : ∀ ws bound,
    bindParams cfg' env params ws bound = bindParams cfg env params ws bound := by
  induction params with
  | nil => intro ws bound; rfl
  | cons p ps ih =>
    intro ws bound
    cases ws with
    | cons w ws => simp only [bindParams, ih]
    | nil =>
      cases p with
      | none => rfl
      | some d => simp only [bindParams_default, evalA_same h, ih]

theorem runAssigns_same (env : Env) (cs : List String) : runAssigns cfg' env cs = runAssigns cfg env cs := by
  induction cs with
  | nil => rfl
  | cons c cs ih => simp only [runAssigns, evalA_same h, ih]

theorem runCmd_rel (env : Env) (ri : Nat) (r : Recipe) (given : Args) (l : Line) (cmd : String) :
    Sim SameExec (runCmd cfg' env ri r given l cmd) (runCmd cfg env ri r given l cmd) := by
  rw [runCmd_eq, runCmd_eq, h.dry]
  exact (Sim.echoOnly ((echoes_single cmd).ite _) ((echoes_single cmd).ite _)).andThen sameExec fun _ _ _ _ => .of_eq rfl

theorem scriptTail_rel (env : Env) (ri : Nat) (r : Recipe) (given : Args) (lines : List String) :
    Sim SameExec (scriptTail cfg' env ri r given lines) (scriptTail cfg env ri r given lines) := by
  unfold scriptTail
  rw [h.dry]
  exact (Sim.echoOnly ((echoes_map lines).ite _) ((echoes_map lines).ite _)).andThen sameExec fun _ _ _ _ => .of_eq rfl

end Just.Run
