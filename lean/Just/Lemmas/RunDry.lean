import Just.Lemmas.RunSim
import Just.Lemmas.RunLeaf
/-
What `--dry-run` prints is what a real run executes: for recipes without backticks and children that all
succeed, the lines printed by the dry run, one after the other, are the texts of the commands and scripts
the real run starts, in the same order.
-/
namespace Just.Run

def dryText : List Ev → String
  | [] => ""
  | .echo t :: es => t ++ "\n" ++ dryText es
  | _ :: es => dryText es

/-- what a real run executes: every command line with its line end, every script as written to its file -/
def realText : List Ev → String
  | [] => ""
  | .spawn _ _ c :: es => c ++ "\n" ++ realText es
  | .script _ _ t :: es => t ++ realText es
  | _ :: es => realText es

@[simp] theorem dryText_nil : dryText [] = "" := rfl
@[simp] theorem realText_nil : realText [] = "" := rfl

@[simp] theorem dryText_append (a b : List Ev) : dryText (a ++ b) = dryText a ++ dryText b := by
  induction a with
  | nil => simp
  | cons e es ih => cases e <;> simp [dryText, ih, String.append_assoc]

@[simp] theorem realText_append (a b : List Ev) : realText (a ++ b) = realText a ++ realText b := by
  induction a with
  | nil => simp
  | cons e es ih => cases e <;> simp [realText, ih, String.append_assoc]

@[simp] theorem countPrompts_append (a b : List Ev) : countPrompts (a ++ b) = countPrompts a + countPrompts b := by
  induction a with
  | nil => simp [countPrompts]
  | cons e es ih => cases e <;> simp [countPrompts, ih] <;> omega

theorem dryText_map_echo (ls : List String) : dryText (ls.map Ev.echo) = joinLines ls := by
  induction ls with
  | nil => rfl
  | cons l ls ih => simp [dryText, joinLines, ih]

attribute [simp] echoes_single echoes_map Echoes.ite

@[simp] theorem realText_echoes {es : List Ev} (h : Echoes es) : realText es = "" := by
  induction es with
  | nil => rfl
  | cons e es ih =>
    obtain ⟨t, rfl⟩ := h e (List.mem_cons_self ..)
    exact ih fun ev hev => h ev (List.mem_cons_of_mem _ hev)

@[simp] theorem countPrompts_echoes {es : List Ev} (h : Echoes es) : countPrompts es = 0 := by
  induction es with
  | nil => rfl
  | cons e es ih =>
    obtain ⟨t, rfl⟩ := h e (List.mem_cons_self ..)
    exact ih fun ev hev => h ev (List.mem_cons_of_mem _ hev)

def AExpr.btFree : AExpr → Bool
  | .lit _ => true
  | .param _ => true
  | .cat a b => a.btFree && b.btFree
  | .bt _ => false

structure Recipe.BtFree (r : Recipe) : Prop where
  params : ∀ d, some d ∈ r.params → d.btFree = true
  priors : ∀ d ∈ r.priors, ∀ a ∈ d.args, a.btFree = true
  subs : ∀ d ∈ r.subs, ∀ a ∈ d.args, a.btFree = true
  body : ∀ l ∈ r.body, ∀ a ∈ l.frags, a.btFree = true

structure DryOf (cfgR cfgD : Cfg) : Prop where
  dryD : cfgD.dryRun = true
  dryR : cfgR.dryRun = false
  yes : cfgD.yes = cfgR.yes
  noDeps : cfgD.noDeps = cfgR.noDeps
  quietD : cfgD.quiet = false      -- `--dry-run` and `--quiet` exclude each other on the command line

def Shows (d r : List Ev) : Prop := dryText d = realText r ∧ countPrompts d = countPrompts r

theorem shows : EvRel Shows where
  nil := ⟨rfl, rfl⟩
  append h1 h2 := ⟨by rw [dryText_append, realText_append, h1.1, h2.1],
    by rw [countPrompts_append, countPrompts_append, h1.2, h2.2]⟩
  prompts h := h.2

/-- without backticks evaluation emits nothing and does not depend on the configuration -/
theorem evalA_btFree {cfg cfg' : Cfg} (env : Env) (a : AExpr) (ha : a.btFree = true) : SimA Shows cfg cfg' env a := by
  intro ps
  induction a with
  | lit s => exact Sim.silent shows _
  | param i => simp only [evalA]; split <;> exact Sim.silent shows _
  | cat a b iha ihb =>
    simp only [AExpr.btFree, Bool.and_eq_true] at ha
    rw [evalA_cat, evalA_cat]
    exact (iha ha.1).andThen shows fun _ _ _ _ => (ihb ha.2).andThen shows fun _ _ _ _ => Sim.silent shows _
  | bt c => cases ha

variable {cfgR cfgD : Cfg} (h : DryOf cfgR cfgD) {env : Env} (hok : ∀ c, env.status c = .ok)
include h hok

theorem runCmd_rel2 (ri : Nat) (r : Recipe) (given : Args) (l : Line) (cmd : String) :
    Sim Shows (runCmd cfgD env ri r given l cmd) (runCmd cfgR env ri r given l cmd) := by
  unfold runCmd Sim Shows
  simp only [h.dryD, h.dryR, echoes, Bool.true_or, if_true, Bool.false_eq_true, if_false, hok cmd, Status.toErr]
  refine ⟨by simp, ?_, ?_⟩
  · simp [dryText, realText]
  · simp [countPrompts]

theorem scriptTail_rel2 (ri : Nat) (r : Recipe) (given : Args) (lines : List String) :
    Sim Shows (scriptTail cfgD env ri r given lines) (scriptTail cfgR env ri r given lines) := by
  unfold scriptTail execEv Sim Shows
  simp only [h.dryD, h.dryR, h.quietD, hok (joinLines lines), Status.toErr, Bool.not_false, Bool.true_or, Bool.true_and,
    if_true, Bool.false_eq_true, if_false, Bool.false_or, andThen_ok, List.append_nil]
  refine ⟨trivial, ?_, ?_⟩
  · simp [dryText_map_echo, realText]
  · simp [countPrompts]

/-- module-level backticks: skipped by the dry run, run (and here succeeding) in the real one -/
theorem runAssigns_rel2 (cs : List String) : Sim Shows (runAssigns cfgD env cs) (runAssigns cfgR env cs) := by
  induction cs with
  | nil => exact Sim.silent shows _
  | cons c cs ih =>
    simp only [runAssigns, evalA, h.dryD, h.dryR, if_true, Bool.false_eq_true, if_false, hok c, Status.toErr]
    exact ⟨ih.1, by simp [ih.2.1, realText], by simp [ih.2.2, countPrompts]⟩

end Just.Run
