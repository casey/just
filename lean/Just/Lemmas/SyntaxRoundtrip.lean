import Just.Lemmas.Syntax
/-
The print / parse round trip of expressions, in two steps: the printed tokens of a well-formed expression derive it in
the grammar (`printed`, structural induction, no fuel), and fuel linear in the size of what a derivation yields suffices
(`Parses.complete_size`, Lemmas/Grammar.lean).  Stated as property theorems in Props/C10.lean, used by the header lemmas.
-/
namespace Just.Syntax
open Just

def ParsesAt : Nat → List Tk → Expr → List Tk → Prop
  | 0 => Parses .value
  | 1 => Parses .conjunct
  | 2 => Parses .disjunct
  | _ => Parses .expression

theorem ParsesAt.complete {k : Nat} {ts r : List Tk} {e : Expr} (h : ParsesAt k ts e r) (hk : k ≤ 3) {f : Nat} (hf : 4 * e.size + k ≤ f) :
    parseAt k f ts = some (e, r) := by
  have : k = 0 ∨ k = 1 ∨ k = 2 ∨ k = 3 := by omega
  rcases this with rfl | rfl | rfl | rfl <;> exact Parses.complete_size h f hf

/-- a phrase of level `k` is one of level `k + 1` when what follows does not continue it -/
theorem ParsesAt.succ {k : Nat} {ts rest : List Tk} {e : Expr} (h : ParsesAt k ts e rest) (hk : k < 3)
    (hstop : StopE (k + 1) e rest) (h0 : k = 0 → ValueStart ts ∧ endsValue e = true) : ParsesAt (k + 1) ts e rest := by
  have : k = 0 ∨ k = 1 ∨ k = 2 := by omega
  rcases this with rfl | rfl | rfl
  · obtain ⟨hs, hv⟩ := h0 rfl
    exact .value hs.1 hs.2 h (hstop.not_next (by simp [blocksE, hv])) (hstop.not_next (by simp [blocksE, hv]))
  · exact .conjunct h (hstop.not_next (by simp [blocksE]))
  · exact .disjunct h (hstop.not_next (by simp [blocksE]))

/-- the printed tokens of `e` derive `e` at every level at which it may stand -/
def Printed (e : Expr) : Prop :=
  ∀ k, level e ≤ k → k ≤ 3 → ∀ rest, StopE k e rest → After e rest → ParsesAt k (printE e ++ rest) e rest

/-- it is enough to derive `e` at its own level: the levels above hand it on (`ParsesAt.succ`) -/
theorem Printed.of_own {e : Expr} (hw : WF e)
    (own : ∀ rest, StopE (level e) e rest → After e rest → ParsesAt (level e) (printE e ++ rest) e rest) : Printed e := by
  intro k hk
  induction hk with
  | refl => exact fun _ => own
  | @step k hk ih =>
    exact fun hk3 rest hstop hafter => (ih (Nat.le_of_succ_le hk3) rest (hstop.le (Nat.le_succ k)) hafter).succ hk3 hstop
      fun h0 => value_of_level0 hw (Nat.le_zero.mp (h0 ▸ hk)) rest

/-- the whole of `e` in front of a token that ends it -/
theorem Printed.closed {e : Expr} (h : Printed e) {t : Tk} (ht : closes 3 t = true) (rest : List Tk) :
    Parses .expression (printE e ++ t :: rest) e (t :: rest) :=
  h 3 (level_le3 e) (Nat.le_refl 3) _ (stopE_of_closes ht e rest) (after_of_closes ht e rest)

mutual
/-- Each case derives `e` at its own level by the rule that makes it: an operand on the left is followed by its operator,
which ends it (`closes`), an operand on the right by what follows `e`. -/
theorem printed : (e : Expr) → WF e → Printed e
  | .str l, hw => .of_own hw fun rest _ _ => by
    show Parses .value (litTokens l ++ rest) _ _
    rcases litTokens_cases l with ⟨cs, hcs, h⟩ | h <;> rw [h]
    · have := Parses.xLit (String.ofList cs) rest; rwa [xLit_ofList hcs] at this
    · exact .str l rest
  | .backtick s, hw => .of_own hw fun rest _ _ => .bt s rest
  | .var n, hw => .of_own hw fun rest _ ha => by
    show Parses .value (.ident n :: rest) _ _
    exact .var hw.2 (fun s _ hr hx => (ha n rfl).2 hx s (hr ▸ rfl)) (fun _ hr => (ha n rfl).1 (hr ▸ rfl))
  | .call fn args, hw => .of_own hw fun rest _ _ => .call hw.1.2 (printedArgs args hw.2.2 rest) hw.2.1
  | .assert a o b m, hw => .of_own hw fun rest _ _ => by
    simp only [printE, List.append_assoc, List.cons_append, List.nil_append]
    exact .assert (.op ((printed a hw.1).closed rfl _) ((printed b hw.2.1).closed (t := .comma) rfl _))
      ((printed m hw.2.2).closed (t := .rparen) rfl rest)
  | .group e, hw => .of_own hw fun rest _ _ => by
    simp only [printE, List.append_assoc, List.cons_append, List.nil_append]
    exact .group ((printed e hw).closed (t := .rparen) rfl rest)
  | .concat l r, hw => .of_own hw fun rest hstop hafter => by
    obtain ⟨hl0, hr1, hwl, hwr⟩ := hw
    have hs := (value_of_level0 hwl hl0 (.plus :: (printE r ++ rest))).1
    simp only [printE, List.append_assoc, List.cons_append, List.nil_append]
    exact .concat hs.1 hs.2
      (printed l hwl 0 (Nat.le_of_eq hl0) (by decide) _ (stopE_of_closes rfl _ _) (after_of_closes (k := 0) rfl _ _))
      (printed r hwr 1 hr1 (by decide) rest hstop hafter)
  | .joinL l r, hw => .of_own hw fun rest hstop hafter => by
    obtain ⟨hl0, hr1, hwl, hwr⟩ := hw
    have hs := (value_of_level0 hwl hl0 (.slash :: (printE r ++ rest))).1
    simp only [printE, List.append_assoc, List.cons_append, List.nil_append]
    exact .joinL hs.1 hs.2
      (printed l hwl 0 (Nat.le_of_eq hl0) (by decide) _ (stopE_of_closes rfl _ _) (after_of_closes (k := 0) rfl _ _))
      (printed r hwr 1 hr1 (by decide) rest hstop hafter)
  | .joinR r, hw => .of_own hw fun rest hstop hafter => .joinR (printed r hw.2 1 hw.1 (by decide) rest hstop hafter)
  | .and l r, hw => .of_own hw fun rest hstop hafter => by
    obtain ⟨hl1, hr2, hwl, hwr⟩ := hw
    simp only [printE, List.append_assoc, List.cons_append, List.nil_append]
    exact .and (printed l hwl 1 hl1 (by decide) _ (stopE_of_closes rfl _ _) (after_of_closes (k := 1) rfl _ _))
      (printed r hwr 2 hr2 (by decide) rest hstop hafter)
  | .or l r, hw => .of_own hw fun rest hstop hafter => by
    obtain ⟨hl2, hwl, hwr⟩ := hw
    simp only [printE, List.append_assoc, List.cons_append, List.nil_append]
    exact .or (printed l hwl 2 hl2 (by decide) _ (stopE_of_closes rfl _ _) (after_of_closes (k := 2) rfl _ _))
      (printed r hwr 3 (level_le3 r) (by decide) rest hstop hafter)
  | .cond a o b t x, hw => .of_own hw fun rest _ _ => by
    have hc : Parses .condition _ (a, o, b) _ := .op ((printed a hw.1).closed rfl _) ((printed b hw.2.1).closed (t := .lbrace) rfl
      (printE t ++ .rbrace :: .ident "else" :: (printElse x ++ rest)))
    have ht := (printed t hw.2.2.1).closed (t := .rbrace) rfl (.ident "else" :: (printElse x ++ rest))
    have hx := printed x hw.2.2.2
    simp only [printE, List.append_assoc, List.cons_append, List.nil_append]
    refine .cond ?_
    -- `else if …` is another conditional, anything else stands in braces
    rcases printElse_cases x with ⟨a', o', b', t', x', rfl⟩ | hp
    · cases hx 1 (Nat.le_refl 1) (by decide) rest (fun _ _ => rfl) (after_of_none rfl rest) with
      | cond h3 => exact .elseIf hc ht h3
      | value h1 => exact absurd rfl (h1 _)
    · rw [hp, List.cons_append, List.append_assoc, List.singleton_append] at hc ht ⊢
      exact .elseBlock hc ht (hx.closed (t := .rbrace) rfl rest)
theorem printedArgs : (es : Exprs) → WFs es → ∀ rest, Parses .sequence (printArgs es ++ [.rparen] ++ rest) es rest
  | .nil, _, rest => .nil rest
  | .cons e .nil, hw, rest => by
    simp only [printArgs, List.append_assoc, List.cons_append, List.nil_append]
    exact .single (((printE_head e).append _).ne rfl) ((printed e hw.1).closed (t := .rparen) rfl rest)
  | .cons e (.cons e' es), hw, rest => by
    have hrec := printedArgs (.cons e' es) hw.2 rest
    simp only [printArgs, List.append_assoc, List.cons_append, List.nil_append] at hrec ⊢
    exact .cons (((printE_head e).append _).ne rfl) ((printed e hw.1).closed (t := .comma) rfl _) hrec
end

/-- the whole of a printed expression in front of a token that ends it, as `parse_expression` reads it -/
theorem roundtrip_closed {e : Expr} (hw : WF e) {f : Nat} (hf : 4 * e.size + 3 ≤ f) {t : Tk} (ht : closes 3 t = true) (rest : List Tk) :
    parseExpression f (printE e ++ t :: rest) = some (e, t :: rest) :=
  ((printed e hw).closed ht rest).complete_size f hf

end Just.Syntax
