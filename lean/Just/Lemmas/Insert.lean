/-
Insertion into an ordered list, once: `insertBy`, `insertStr` and `insertPlaced` of `Just.Listing`
and `Ast.insertAttr` are one function over four element types and four tests. The instances are
`insertBy_by`, `insertPlaced_by` (Lemmas/Unsorted.lean), `insertStr_by` (Lemmas/Groups.lean) and
`insertAttr_by` (Lemmas/ParserWF.lean).
-/
namespace Just

structure InsertsBy {α : Type} (lt : α → α → Prop) [DecidableRel lt] (ins : α → List α → List α) :
    Prop where
  nil : ∀ a, ins a [] = [a]
  cons : ∀ a x xs, ins a (x :: xs) = if lt a x then a :: x :: xs else x :: ins a xs

namespace InsertsBy
variable {α : Type} {lt : α → α → Prop} [DecidableRel lt] {ins : α → List α → List α}

theorem perm (h : InsertsBy lt ins) (a : α) : ∀ l, (ins a l).Perm (a :: l)
  | [] => by rw [h.nil]
  | x :: xs => by
    rw [h.cons]
    split
    · exact .refl _
    · exact ((h.perm a xs).cons x).trans (.swap a x xs)

theorem foldr_perm (h : InsertsBy lt ins) : ∀ l : List α, (l.foldr ins []).Perm l
  | [] => .refl _
  | a :: l => (h.perm a _).trans ((h.foldr_perm l).cons a)

theorem pairwise (h : InsertsBy lt ins) (asymm : ∀ a b, lt a b → ¬ lt b a)
    (trans : ∀ a b c, lt a b → lt b c → lt a c) (a : α) :
    ∀ l : List α, l.Pairwise (fun x y => ¬ lt y x) → (ins a l).Pairwise (fun x y => ¬ lt y x)
  | [], _ => by rw [h.nil]; exact List.pairwise_singleton _ _
  | x :: xs, hl => by
    have hx := List.pairwise_cons.mp hl
    rw [h.cons]
    split
    · rename_i hax
      refine List.pairwise_cons.mpr ⟨fun y hy hya => ?_, hl⟩
      rcases List.mem_cons.mp hy with rfl | hy
      · exact asymm _ _ hax hya
      · exact hx.1 y hy (trans _ _ _ hya hax)
    · rename_i hax
      refine List.pairwise_cons.mpr ⟨fun y hy => ?_, h.pairwise asymm trans a xs hx.2⟩
      rcases List.mem_cons.mp ((h.perm a xs).mem_iff.mp hy) with rfl | hy
      · exact hax
      · exact hx.1 y hy

theorem foldr_pairwise (h : InsertsBy lt ins) (asymm : ∀ a b, lt a b → ¬ lt b a)
    (trans : ∀ a b c, lt a b → lt b c → lt a c) :
    ∀ l : List α, (l.foldr ins []).Pairwise (fun x y => ¬ lt y x)
  | [] => .nil
  | a :: l => h.pairwise asymm trans a _ (h.foldr_pairwise asymm trans l)

end InsertsBy
end Just
