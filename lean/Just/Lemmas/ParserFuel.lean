import Just.Lemmas.ParserProgress
/-
Fuel is not a restriction on the expression parser: with fuel linear in the number of tokens every function of it returns
what it returns with any larger amount.  `Agree` is the form in which the parsers of items use this.
-/
namespace Just.Syntax
open Just

structure ParserStable (f : Nat) : Prop where
  value : ∀ ts k, 8 * ts.length + 1 ≤ f → parseValue (f + k) ts = parseValue f ts
  conjunct : ∀ ts k, 8 * ts.length + 2 ≤ f → parseConjunct (f + k) ts = parseConjunct f ts
  disjunct : ∀ ts k, 8 * ts.length + 3 ≤ f → parseDisjunct (f + k) ts = parseDisjunct f ts
  expression : ∀ ts k, 8 * ts.length + 4 ≤ f → parseExpression (f + k) ts = parseExpression f ts
  condition : ∀ ts k, 8 * ts.length + 5 ≤ f → parseCondition (f + k) ts = parseCondition f ts
  conditional : ∀ ts k, 8 * ts.length + 6 ≤ f → parseConditional (f + k) ts = parseConditional f ts
  sequence : ∀ ts k, 8 * ts.length + 5 ≤ f → parseSequence (f + k) ts = parseSequence f ts

theorem parserStable (f : Nat) : ParserStable f where
  value ts k h := parse_stable .value ts f k h
  conjunct ts k h := parse_stable .conjunct ts f k h
  disjunct ts k h := parse_stable .disjunct ts f k h
  expression ts k h := parse_stable .expression ts f k h
  condition ts k h := parse_stable .condition ts f k h
  conditional ts k h := parse_stable .conditional ts f k h
  sequence ts k h := parse_stable .sequence ts f k h

/-- The fuels `v` and `w` are as good as each other on inputs of at most `n` tokens: the expression parser returns the same
with both, and neither runs out as the counter of a loop.  The parsers of items (Lemmas/ParserCalls.lean) are compared under this hypothesis
alone, so the constants of `parse_stable` occur in none of their lemmas; `agree_add` provides it from the bound. -/
structure Agree (v w n : Nat) : Prop where
  parse : ∀ (p : Phrase) (ts : List Tk), ts.length ≤ n → parse p v ts = parse p w ts
  left : n < v
  right : n < w

theorem agree_add {v n : Nat} (k : Nat) (h : 8 * n + 6 ≤ v) : Agree (v + k) v n where
  parse p ts hts := parse_stable p ts v k (by have : p.rank ≤ 6 := by cases p <;> decide
                                              omega)
  left := by omega
  right := by omega

theorem Agree.symm {v w n : Nat} (h : Agree v w n) : Agree w v n :=
  ⟨fun p ts hn => (h.parse p ts hn).symm, h.right, h.left⟩

theorem Agree.ext {α : Type} {g : Nat → Option α} {v w n : Nat} (ha : Agree v w n)
    (h : ∀ {v w y}, Agree v w n → g v = some y → g w = some y) : g v = g w :=
  Option.ext fun _ => ⟨h ha, h ha.symm⟩

end Just.Syntax
