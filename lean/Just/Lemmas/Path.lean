import Just.Model.Path
/-
About `Just.Path` (`Path::components`, the `lexiclean` crate).  What lexiclean's loop holds always satisfies `Shape`
(`clean_shape`); from that, cleaning is idempotent (`cleanComps_idempotent`) and leaves no `.`, no root but the first
component and a `..` only in front or after another `..` (`cleanComps_result`).  `rsplitFileAtDot_cases` is what
`rsplit_file_at_dot` can return.
-/
namespace Just.Path

theorem partComp_cases (first : Bool) (s : List Char) {r : Option Comp} (h : partComp first s = r) :
    r = none ∨ r = some .cur ∨ r = some .parent ∨ (r = some (.normal s) ∧ s ≠ [] ∧ s ≠ ['.'] ∧ s ≠ ['.', '.']) := by
  subst h
  fun_cases partComp first s <;> simp_all

theorem mem_partsComps {c : Comp} {parts : List (List Char)} {first : Bool} (h : c ∈ partsComps first parts) :
    ∃ s ∈ parts, ∃ f, partComp f s = some c := by
  fun_induction partsComps first parts <;> grind

theorem components_root_first (p : List Char) : ∀ c ∈ (components p).tail, c ≠ .root := by
  have hno : ∀ first, ∀ c ∈ partsComps first (splitSlash p []), c ≠ .root := fun first c hc e => by
    obtain ⟨s, _, f, hs⟩ := mem_partsComps hc
    rcases partComp_cases f s hs with h | h | h | ⟨h, _⟩ <;> cases e ▸ h
  unfold components
  split
  · exact hno false
  · exact fun c hc => hno true c (List.mem_of_mem_tail hc)

/-- the vectors lexiclean's loop can hold, last element first: names on top of `..`s, of the root, or of nothing -/
inductive Shape : List Comp → Prop
  | nil : Shape []
  | root : Shape [.root]
  | parent : Shape [.parent]
  | parents {acc : List Comp} : Shape (.parent :: acc) → Shape (.parent :: .parent :: acc)
  | normal {s : List Char} {acc : List Comp} : Shape acc → Shape (.normal s :: acc)

theorem cleanStep_cases (acc : List Comp) (c : Comp) :
    cleanStep acc c = acc ∨ cleanStep acc c = c :: acc ∨ ∃ s, acc = .normal s :: cleanStep acc c := by
  fun_cases cleanStep acc c
  case case1 | case5 => exact .inl rfl  -- a `.`; a `..` on the root
  case case2 => exact .inr (.inr ⟨_, rfl⟩)
  case case3 | case4 | case6 => exact .inr (.inl rfl)

theorem cleanStep_shape {acc : List Comp} {c : Comp} (h : Shape acc) (hc : c = .root → acc = []) :
    Shape (cleanStep acc c) := by
  cases c with
  | cur => exact h
  | normal s => exact .normal h
  | root => rw [hc rfl]; exact .root
  | parent =>
    cases h with
    | nil => exact .parent
    | root => exact .root
    | parent => exact .parents .parent
    | parents h => exact .parents (.parents h)
    | normal h => exact h

theorem clean_shape : ∀ (cs : List Comp), (∀ c ∈ cs.tail, c ≠ .root) → Shape (cs.foldl cleanStep [])
  | [], _ => .nil
  | _ :: cs, h => List.foldlRecOn cs cleanStep (cleanStep_shape .nil fun _ => rfl) fun _ hb c hc =>
      cleanStep_shape hb fun e => absurd e (h c hc)

theorem Shape.fixed {acc : List Comp} (h : Shape acc) : acc.foldr (fun c a => cleanStep a c) [] = acc := by
  induction h with
  | nil | root | parent => rfl
  | parents _ ih | normal _ ih => rw [List.foldr_cons, ih]; rfl

/-- read from the newest element: no `.`, nothing above it is the root, and below a `..` there are only `..`s -/
theorem Shape.spec {acc : List Comp} (h : Shape acc) :
    .cur ∉ acc ∧ acc.Pairwise fun new old => new ≠ .root ∧ (new = .parent → old = .parent) := by
  induction h with
  | nil => exact ⟨List.not_mem_nil, .nil⟩
  | root | parent => exact ⟨fun hm => (nomatch List.mem_singleton.mp hm), List.pairwise_singleton _ _⟩
  | normal _ ih =>
    exact ⟨fun hm => (List.mem_cons.mp hm).elim nofun ih.1, List.pairwise_cons.mpr ⟨fun _ _ => ⟨nofun, nofun⟩, ih.2⟩⟩
  | parents _ ih =>
    refine ⟨fun hm => (List.mem_cons.mp hm).elim nofun ih.1, List.pairwise_cons.mpr ⟨fun o ho => ⟨nofun, fun _ => ?_⟩, ih.2⟩⟩
    exact (List.mem_cons.mp ho).elim id fun ho => ((List.pairwise_cons.mp ih.2).1 o ho).2 rfl

theorem cleanComps_idempotent (cs : List Comp) (h : ∀ c ∈ cs.tail, c ≠ .root) :
    cleanComps (cleanComps cs) = cleanComps cs := by
  unfold cleanComps
  rw [List.foldl_reverse, (clean_shape cs h).fixed]

theorem cleanComps_result (cs : List Comp) (h : ∀ c ∈ cs.tail, c ≠ .root) :
    .cur ∉ cleanComps cs ∧ (∀ c ∈ (cleanComps cs).tail, c ≠ .root) ∧
    (∀ pre a post, cleanComps cs = pre ++ a :: .parent :: post → a = .parent) := by
  obtain ⟨h1, h2⟩ := (clean_shape cs h).spec
  replace h1 := mt List.mem_reverse.mp h1
  rw [← List.pairwise_reverse] at h2
  unfold cleanComps
  generalize (List.foldl cleanStep [] cs).reverse = l at h1 h2
  refine ⟨h1, fun c hc => ?_, fun pre a post e => ?_⟩
  · cases l with
    | nil => cases hc
    | cons x t => exact ((List.pairwise_cons.mp h2).1 c hc).1
  · rw [e] at h2
    exact ((List.pairwise_cons.mp (List.pairwise_append.mp h2).2.1).1 _ (.head _)).2 rfl

theorem push_head (t : List Char) (c : Comp) : ∃ t', push ('/' :: t) c = '/' :: t' := by
  fun_cases push ('/' :: t) c <;> simp_all

theorem scan_fst (cs : List Char) (first : Bool) (i : Nat) (cur : List Char) :
    (scan first i cur cs).map Prod.fst = partsComps first (splitSlash cs cur) := by
  fun_induction scan first i cur cs <;> simp_all [emit, splitSlash, partsComps] <;> split <;> simp_all

theorem splitLastDot_spec (f before after : List Char) (h : splitLastDot f = some (before, after)) :
    f = before ++ '.' :: after ∧ '.' ∉ after := by
  unfold splitLastDot at h
  split at h
  · cases h
  · rename_i c _ hd
    obtain ⟨rfl, rfl⟩ := h
    have hc : c = '.' := by
      have := List.head?_dropWhile_not (· ≠ '.') f.reverse
      rw [hd] at this
      simpa using this
    subst hc
    constructor
    · have h1 : f.reverse = f.reverse.takeWhile (· ≠ '.') ++ f.reverse.dropWhile (· ≠ '.') :=
        List.takeWhile_append_dropWhile.symm
      rw [hd] at h1
      have := congrArg List.reverse h1
      simpa using this
    · intro hm
      simpa using List.all_eq_true.mp List.all_takeWhile _ (List.mem_reverse.mp hm)

/-- what `rsplit_file_at_dot` returns: the whole name as the stem (`..`, `.bashrc`), the whole name as what follows a
dot that is not there, or the name cut at its last dot -/
theorem rsplitFileAtDot_cases (f : List Char) :
    rsplitFileAtDot f = (some f, none) ∨ rsplitFileAtDot f = (none, some f) ∨
      ∃ b a, rsplitFileAtDot f = (some b, some a) ∧ f = b ++ '.' :: a ∧ '.' ∉ a := by
  fun_cases rsplitFileAtDot f
  case case1 | case3 => exact .inl rfl
  case case2 => exact .inr (.inl rfl)
  case case4 h _ => exact .inr (.inr ⟨_, _, rfl, splitLastDot_spec f _ _ h⟩)

theorem searchClean_no_parent (cs : List Comp) : .parent ∉ searchCleanComps cs := by
  refine mt List.mem_reverse.mp (List.foldlRecOn cs searchCleanStep (motive := fun acc => .parent ∉ acc)
    List.not_mem_nil fun acc h c _ => ?_)
  fun_cases searchCleanStep acc c <;> grind

end Just.Path
