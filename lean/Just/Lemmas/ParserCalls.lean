import Just.Lemmas.ParserProgress
import Just.Lemmas.ParserFuel
import Just.Lemmas.ParserWF
/-
What a successful call of a parsing function of the token-level model entails, one statement per function (`…_spec`):
it returns strictly fewer tokens than it was given (not more, for the optional and repeated parts); what it returns is
well-formed (meets the hypotheses of the round-trip theorems); and it returns the same with every other fuel `w` under which
the expression parser does (`Agree v w n`, `n` bounding the tokens) and no loop counter `g` runs out.  Hence (Props/C11.lean,
C10.lean) every turn of the item loop of `parse_ast` consumes a token, the loop takes at most as many turns as there are
tokens, `parse_ast` needs no fuel, and whatever it returns is well-formed.

The proof of a `…_spec` for a parser of items begins with `paths f at h`.  On a path the tokens matched, the progress of the calls made adds up, the
result is made of what they returned, and the function at fuel `w` takes the same path, its calls returning the same (`l…`,
`w…`, `s…` name these three parts of the statement of a callee).  `acceptDep`, `parseDeps` and `parseLines` take two fuels
for the calls they make; they are stated for the one fuel `parse_ast` hands down to both.
-/

/-- `paths f at h`, for `h : f … = some _`: unfolds `f` and splits `h` at every `match`.  It leaves one goal per successful path
through `f`, the outcome of the path substituted for the result (a path that ends in a tail call keeps `h`); the failing paths,
where `h : none = some _`, are closed. -/
macro "paths " f:ident " at " h:ident : tactic =>
  `(tactic| (unfold $f:ident at $h:ident
             repeat' split at $h:ident
             all_goals first | cases $h:ident; done | cases $h:ident | skip))

namespace Just.Header
open Just Just.Syntax

variable {v f : Nat} {ts r : List Tk}

theorem expectEol_le (h : expectEol ts = some r) : r.length ≤ ts.length := by
  unfold expectEol at h
  split at h <;> cases h <;> simp only [List.length_cons] <;> omega

/-- the optional `$` in front of a parameter -/
theorem dollar_le {ts1 : List Tk} {e : Bool}
    (h : (match ts with | .other "Dollar" :: r => (true, r) | _ => (false, ts)) = (e, ts1)) : ts1.length ≤ ts.length := by
  split at h <;> cases h <;> simp

/-- the two functions of the expression parser that the parsers of items call, stated like these -/
theorem parseValue_spec {e} (h : parseValue v ts = some (e, r)) :
    r.length < ts.length ∧ WFValue e ∧ ∀ w n, Agree v w n → ts.length ≤ n → parseValue w ts = some (e, r) := by
  refine ⟨(parserProg v).value ts e r h, ?_, fun _ _ ha hn => (ha.parse .value ts hn).symm.trans h⟩
  cases parse_sound v .value ts e r h with
  | str | bt | strAdj | xLit => trivial
  | assert hc hm => exact ⟨hc.wf.1, hc.wf.2, hm.wf⟩
  | call hn hs hfn => exact ⟨hn, hfn, hs.wf⟩
  | var hn => exact hn
  | group he => exact he.wf

theorem parseExpression_spec {e} (h : parseExpression v ts = some (e, r)) :
    r.length < ts.length ∧ WF e ∧ ∀ w n, Agree v w n → ts.length ≤ n → parseExpression w ts = some (e, r) :=
  ⟨(parserProg v).expression ts e r h, (parserWF v).expression ts e r h, fun _ _ ha hn => (ha.parse .expression ts hn).symm.trans h⟩

theorem parseParam_spec {k p} (h : parseParam v k ts = some (p, r)) :
    r.length < ts.length ∧ (p.kind = k ∧ WFParam p) ∧ ∀ w n, Agree v w n → ts.length ≤ n → parseParam w k ts = some (p, r) := by
  paths parseParam at h
  all_goals have := dollar_le ‹_›; simp only [List.length_cons] at this
  · obtain ⟨l1, w1, s1⟩ := parseValue_spec ‹_›
    exact ⟨by omega, ⟨rfl, w1⟩, fun w n ha hn => by simp only [parseParam, *, s1 w n ha (by omega)]⟩
  · exact ⟨by omega, ⟨rfl, trivial⟩, fun w n ha hn => by simp only [parseParam, *]⟩

theorem parseParams_spec {ps} (h : parseParams v f ts = some (ps, r)) :
    r.length ≤ ts.length ∧ (∀ p ∈ ps, p.kind = .singular ∧ WFParam p) ∧
      ∀ w g n, Agree v w n → ts.length ≤ n → ts.length < g → parseParams w g ts = some (ps, r) := by
  induction f generalizing ts ps r with
  | zero => cases h
  | succ f ih =>
    paths parseParams at h
    rotate_right
    · refine ⟨Nat.le_refl _, nofun, fun | w, g + 1, n, ha, hn, hg => ?_⟩
      simp only [parseParams]
    all_goals
      obtain ⟨l1, w1, s1⟩ := parseParam_spec ‹_›
      obtain ⟨l2, w2, s2⟩ := ih ‹_›
      refine ⟨by omega, List.forall_mem_cons.mpr ⟨w1, w2⟩, fun | w, g + 1, n, ha, hn, hg => ?_⟩
      simp only [parseParams, s1 w n ha hn, s2 w g n ha (by omega) (by omega)]

theorem parseDepArgs_spec {es} (h : parseDepArgs v f ts = some (es, r)) :
    r.length < ts.length ∧ (WFArgs es ∧ ∀ e es', es = e :: es' → HeadOK e ts) ∧
      ∀ w g n, Agree v w n → ts.length ≤ n → ts.length < g → parseDepArgs w g ts = some (es, r) := by
  induction f generalizing ts es r with
  | zero => cases h
  | succ f ih =>
    paths parseDepArgs at h
    · exact ⟨Nat.lt_succ_self _, ⟨trivial, nofun⟩, fun | _, _ + 1, _, _, _, _ => rfl⟩
    next e r1 he _ es hes =>
      obtain ⟨l1, w1, s1⟩ := parseExpression_spec he
      obtain ⟨l2, w2, s2⟩ := ih hes
      refine ⟨by omega, ⟨?_, fun _ _ hh => by cases hh; exact (parserHead v).expression _ _ _ he⟩, fun | w, g + 1, n, ha, hn, hg => ?_⟩
      · -- where `e` stopped, its printed form stops in front of the printed next argument
        cases es with
        | nil => exact w1
        | cons e' es' =>
          have hst := (parserStops v).expression _ _ _ he
          have hc := chain_ok e e' r1 hst.1 hst.2 (w2.2 e' es' rfl)
          exact ⟨w1, hc.1, hc.2, w2.1⟩
      · simp only [parseDepArgs, s1 w n ha hn, s2 w g n ha (by omega) (by omega)]

theorem acceptDep_spec {d} (h : acceptDep v v ts = some (d, r)) :
    r.length ≤ ts.length ∧ (∀ x, d = some x → r.length < ts.length ∧ WFDep x) ∧
      ∀ w n, Agree v w n → ts.length ≤ n → acceptDep w w ts = some (d, r) := by
  paths acceptDep at h
  · exact ⟨Nat.le_succ _, by rintro _ ⟨⟩; exact ⟨Nat.lt_succ_self _, trivial⟩, fun w n ha hn => by simp only [acceptDep]⟩
  · obtain ⟨l1, w1, s1⟩ := parseDepArgs_spec ‹_›
    simp only [List.length_cons] at *
    exact ⟨by omega, by rintro _ ⟨⟩; exact ⟨by omega, w1.1⟩, fun w n ha hn => by
      have := ha.right
      simp only [acceptDep, s1 w w n ha (by omega) (by omega)]⟩
  · exact ⟨Nat.le_refl _, nofun, fun w n ha hn => by simp only [acceptDep]⟩

theorem parseDeps_spec {ds} (h : parseDeps v v f ts = some (ds, r)) :
    r.length ≤ ts.length ∧ (∀ d ∈ ds, WFDep d) ∧
      ∀ w g n, Agree v w n → ts.length ≤ n → ts.length < g → parseDeps w w g ts = some (ds, r) := by
  induction f generalizing ts ds r with
  | zero => cases h
  | succ f ih =>
    paths parseDeps at h
    all_goals obtain ⟨l1, w1, s1⟩ := acceptDep_spec ‹_›
    · obtain ⟨l2, w2, s2⟩ := ih ‹_›
      have := (w1 _ rfl).1
      refine ⟨by omega, List.forall_mem_cons.mpr ⟨(w1 _ rfl).2, w2⟩, fun | w, g + 1, n, ha, hn, hg => ?_⟩
      simp only [parseDeps, s1 w n ha hn, s2 w g n ha (by omega) (by omega)]
    · refine ⟨l1, nofun, fun | w, g + 1, n, ha, hn, hg => ?_⟩
      simp only [parseDeps, s1 w n ha hn]

theorem parseVariadic_spec {x} (h : parseVariadic v ts = some (x, r)) :
    r.length ≤ ts.length ∧ (∀ p, x = some p → p.kind ≠ .singular ∧ WFParam p) ∧
      ∀ w n, Agree v w n → ts.length ≤ n → parseVariadic w ts = some (x, r) := by
  paths parseVariadic at h
  rotate_right
  · exact ⟨Nat.le_refl _, nofun, fun w n ha hn => by simp only [parseVariadic]⟩
  all_goals
    obtain ⟨l1, w1, s1⟩ := parseParam_spec ‹_›
    simp only [List.length_cons] at *
    exact ⟨by omega, by rintro _ ⟨⟩; exact ⟨by rw [w1.1]; simp, w1.2⟩, fun w n ha hn => by simp only [parseVariadic, s1 w n ha (by omega)]⟩

theorem parseTail_spec {x} (h : parseTail v ts = some (x, r)) :
    r.length < ts.length ∧ ((∀ d ∈ x.1, WFDep d) ∧ ∀ d ∈ x.2, WFDep d) ∧
      ∀ w n, Agree v w n → ts.length ≤ n → parseTail w ts = some (x, r) := by
  paths parseTail at h
  · obtain ⟨l1, w1, s1⟩ := parseDeps_spec ‹parseDeps v v v _ = some (_, Tk.andand :: _)›
    obtain ⟨l2, w2, s2⟩ := parseDeps_spec ‹parseDeps v v v _ = some (_ :: _, _)›
    have := expectEol_le ‹_›
    simp only [List.length_cons] at *
    exact ⟨by omega, ⟨w1, w2⟩, fun w n ha hn => by
      have := ha.right
      simp only [parseTail, s1 w w n ha (by omega) (by omega), s2 w w n ha (by omega) (by omega), *]⟩
  · obtain ⟨l1, w1, s1⟩ := parseDeps_spec ‹_›
    have := expectEol_le ‹_›
    simp only [List.length_cons] at *
    exact ⟨by omega, ⟨w1, nofun⟩, fun w n ha hn => by
      have := ha.right
      simp only [parseTail, s1 w w n ha (by omega) (by omega), *]⟩

theorem parseNamed_spec {q name x} (h : parseNamed v q name ts = some (x, r)) :
    r.length < ts.length ∧ WFHeader x ∧ ∀ w n, Agree v w n → ts.length ≤ n → parseNamed w q name ts = some (x, r) := by
  paths parseNamed at h
  obtain ⟨l1, w1, s1⟩ := parseParams_spec ‹_›
  obtain ⟨l2, w2, s2⟩ := parseVariadic_spec ‹_›
  obtain ⟨l3, w3, s3⟩ := parseTail_spec ‹_›
  exact ⟨by omega, ⟨w1, w2, w3.1, w3.2⟩, fun w n ha hn => by
    have := ha.right
    simp only [parseNamed, s1 w w n ha hn (by omega), s2 w n ha (by omega), s3 w n ha (by omega)]⟩

theorem parseHeader_spec {x} (h : parseHeader v ts = some (x, r)) :
    r.length < ts.length ∧ WFHeader x ∧ ∀ w n, Agree v w n → ts.length ≤ n → parseHeader w ts = some (x, r) := by
  paths parseHeader at h
  all_goals
    obtain ⟨l1, w1, s1⟩ := parseNamed_spec h
    simp only [List.length_cons] at *
    exact ⟨by omega, w1, fun w n ha hn => by simp only [parseHeader, s1 w n ha (by omega)]⟩

end Just.Header

namespace Just.Items
open Just Just.Syntax Just.Header

variable {v f : Nat} {ts r : List Tk}

theorem parseFrags_spec {l} (h : parseFrags v f ts = some (l, r)) :
    r.length ≤ ts.length ∧ ((∀ x, ts ≠ Tk.other "Dedent" :: x) → r.length < ts.length) ∧ (∀ x ∈ l, WFFrag x) ∧
      ∀ w g n, Agree v w n → ts.length ≤ n → ts.length < g → parseFrags w g ts = some (l, r) := by
  induction f generalizing ts l r with
  | zero => cases h
  | succ f ih =>
    paths parseFrags at h
    · exact ⟨Nat.le_succ _, fun _ => Nat.lt_succ_self _, nofun, fun | _, _ + 1, _, _, _, _ => rfl⟩
    · exact ⟨Nat.le_refl _, fun hd => absurd rfl (hd _), nofun, fun | _, _ + 1, _, _, _, _ => rfl⟩
    · obtain ⟨l1, -, w1, s1⟩ := ih ‹_›
      simp only [List.length_cons] at *
      refine ⟨by omega, fun _ => by omega, List.forall_mem_cons.mpr ⟨trivial, w1⟩, fun | w, g + 1, n, ha, hn, hg => ?_⟩
      simp only [parseFrags, s1 w g n ha (by omega) (by omega)]
    · obtain ⟨l1, w1, s1⟩ := parseExpression_spec ‹_›
      obtain ⟨l2, -, w2, s2⟩ := ih ‹_›
      simp only [List.length_cons] at *
      refine ⟨by omega, fun _ => by omega, List.forall_mem_cons.mpr ⟨w1, w2⟩, fun | w, g + 1, n, ha, hn, hg => ?_⟩
      simp only [parseFrags, s1 w n ha (by omega), s2 w g n ha (by omega) (by omega)]

theorem parseLines_spec {ls} (h : parseLines v v f ts = some (ls, r)) :
    r.length < ts.length ∧ (∀ l ∈ ls, ∀ x ∈ l, WFFrag x) ∧
      ∀ w g n, Agree v w n → ts.length ≤ n → ts.length < g → parseLines w w g ts = some (ls, r) := by
  induction f generalizing ts ls r with
  | zero => cases h
  | succ f ih =>
    paths parseLines at h
    · exact ⟨Nat.lt_succ_self _, nofun, fun | _, _ + 1, _, _, _, _ => rfl⟩
    · obtain ⟨-, l1, w1, s1⟩ := parseFrags_spec ‹_›
      obtain ⟨l2, w2, s2⟩ := ih ‹_›
      have := l1 ‹_›
      refine ⟨by omega, List.forall_mem_cons.mpr ⟨w1, w2⟩, fun | w, g + 1, n, ha, hn, hg => ?_⟩
      have := ha.right
      simp only [parseLines, s1 w w n ha hn (by omega), s2 w g n ha (by omega) (by omega)]

theorem parseBody_spec {b} (h : parseBody v ts = some (b, r)) :
    r.length ≤ ts.length ∧ ((∀ l ∈ b, ∀ x ∈ l, WFFrag x) ∧ NoTrailingEmpty b) ∧
      ∀ w n, Agree v w n → ts.length ≤ n → parseBody w ts = some (b, r) := by
  paths parseBody at h
  · obtain ⟨l1, w1, s1⟩ := parseLines_spec ‹_›
    simp only [List.length_cons] at *
    exact ⟨by omega, ⟨fun l hm => w1 l ((dropTrailingEmpty_spec _).2 l hm), (dropTrailingEmpty_spec _).1⟩, fun w n ha hn => by
      have := ha.right
      simp only [parseBody, s1 w w n ha (by omega) (by omega)]⟩
  · exact ⟨Nat.le_refl _, ⟨nofun, trivial⟩, fun w n ha hn => by simp only [parseBody]⟩

theorem parseRecipe_spec {rc} (h : parseRecipe v ts = some (rc, r)) :
    r.length < ts.length ∧ WFRecipe rc ∧ ∀ w n, Agree v w n → ts.length ≤ n → parseRecipe w ts = some (rc, r) := by
  paths parseRecipe at h
  obtain ⟨l1, w1, s1⟩ := parseHeader_spec ‹_›
  obtain ⟨l2, w2, s2⟩ := parseBody_spec ‹_›
  exact ⟨by omega, ⟨w1, w2.1, w2.2⟩, fun w n ha hn => by simp only [parseRecipe, s1 w n ha hn, s2 w n ha (by omega)]⟩

theorem parseAssignment_spec {a} (h : parseAssignment v ts = some (a, r)) :
    r.length < ts.length ∧ WF a.value ∧ ∀ w n, Agree v w n → ts.length ≤ n → parseAssignment w ts = some (a, r) := by
  paths parseAssignment at h
  all_goals
    obtain ⟨l1, w1, s1⟩ := parseExpression_spec ‹_›
    have := expectEol_le ‹_›
    simp only [List.length_cons] at *
    exact ⟨by omega, w1, fun w n ha hn => by simp only [parseAssignment, s1 w n ha (by omega), *]⟩

theorem parsePath_spec {ps} (h : parsePath f ts = some (ps, r)) :
    r.length ≤ ts.length ∧ ∀ g, ts.length < g → parsePath g ts = some (ps, r) := by
  induction f generalizing ts ps r with
  | zero => cases h
  | succ f ih =>
    paths parsePath at h
    · obtain ⟨l1, s1⟩ := ih ‹_›
      simp only [List.length_cons] at *
      refine ⟨by omega, fun | g + 1, hg => ?_⟩
      simp only [parsePath, s1 g (by omega)]
    · refine ⟨Nat.le_refl _, fun | g + 1, hg => ?_⟩
      simp only [parsePath]

theorem parseAlias_spec {a} (h : parseAlias v ts = some (a, r)) :
    r.length < ts.length ∧ ∀ w, ts.length < w → parseAlias w ts = some (a, r) := by
  paths parseAlias at h
  obtain ⟨l1, s1⟩ := parsePath_spec ‹_›
  have := expectEol_le ‹_›
  simp only [List.length_cons] at *
  exact ⟨by omega, fun w hw => by simp only [parseAlias, s1 w (by omega), *]⟩

end Just.Items

namespace Just.Ast
open Just Just.Syntax Just.Header Just.Items

variable {litLe : String → String → Bool} {v f : Nat} {ts r : List Tk}

theorem parseLit_lt {l} (h : parseLit ts = some (l, r)) : r.length < ts.length := by
  unfold parseLit at h
  split at h <;> cases h <;> simp only [List.length_cons] <;> omega

theorem parseLitList_spec {ls} (h : parseLitList f ts = some (ls, r)) :
    r.length < ts.length ∧ ∀ g, ts.length < g → parseLitList g ts = some (ls, r) := by
  induction f generalizing ts ls r with
  | zero => cases h
  | succ f ih =>
    paths parseLitList at h
    all_goals have := parseLit_lt ‹_›
    · obtain ⟨l1, s1⟩ := ih ‹_›
      simp only [List.length_cons] at *
      refine ⟨by omega, fun | g + 1, hg => ?_⟩
      simp only [parseLitList, s1 g (by omega), *]
    · refine ⟨this, fun | g + 1, hg => ?_⟩
      simp only [parseLitList, *]

theorem parseAttrArgs_spec {as} (h : parseAttrArgs v ts = some (as, r)) :
    r.length ≤ ts.length ∧ ∀ w, ts.length < w → parseAttrArgs w ts = some (as, r) := by
  paths parseAttrArgs at h
  · have := parseLit_lt ‹_›
    simp only [List.length_cons]
    exact ⟨by omega, fun w hw => by simp only [parseAttrArgs, *]⟩
  · obtain ⟨l1, s1⟩ := parseLitList_spec ‹_›
    simp only [List.length_cons] at *
    exact ⟨by omega, fun w hw => by simp only [parseAttrArgs, s1 w (by omega)]⟩
  · exact ⟨Nat.le_refl _, fun w hw => by simp only [parseAttrArgs]⟩

theorem parseAttrGroup_spec {acc as} (h : parseAttrGroup litLe v f acc ts = some (as, r)) :
    r.length < ts.length ∧ (LinearLe litLe → WFAttrs litLe acc → WFAttrs litLe as) ∧
      ∀ w g, ts.length < w → ts.length < g → parseAttrGroup litLe w g acc ts = some (as, r) := by
  induction f generalizing acc ts as r with
  | zero => cases h
  | succ f ih =>
    paths parseAttrGroup at h
    all_goals
      obtain ⟨l1, s1⟩ := parseAttrArgs_spec ‹_›
      have hins := fun hl hacc => WFAttrs.insert (litLe := litLe) hl hacc (by simpa using ‹¬attrValid _ = false›) (Bool.eq_false_iff.mpr ‹_›)
    · obtain ⟨l2, w2, s2⟩ := ih h
      simp only [List.length_cons] at *
      refine ⟨by omega, fun hl hacc => w2 hl (hins hl hacc), fun | w, g + 1, hw, hg => ?_⟩
      simp only [parseAttrGroup, s1 w (by omega), s2 w g (by omega) (by omega), Bool.true_eq_false, Bool.false_eq_true, if_false, *]
    · have := expectEol_le ‹_›
      simp only [List.length_cons] at *
      refine ⟨by omega, hins, fun | w, g + 1, hw, hg => ?_⟩
      simp only [parseAttrGroup, s1 w (by omega), Bool.true_eq_false, Bool.false_eq_true, if_false, *]

theorem parseAttributes_spec {acc as} (h : parseAttributes litLe v f acc ts = some (as, r)) :
    r.length ≤ ts.length ∧ (LinearLe litLe → WFAttrs litLe acc → WFAttrs litLe as) ∧
      ∀ w g, ts.length < w → ts.length < g → parseAttributes litLe w g acc ts = some (as, r) := by
  induction f generalizing acc ts as r with
  | zero => cases h
  | succ f ih =>
    paths parseAttributes at h
    · obtain ⟨l1, w1, s1⟩ := parseAttrGroup_spec ‹_›
      obtain ⟨l2, w2, s2⟩ := ih h
      simp only [List.length_cons] at *
      refine ⟨by omega, fun hl hacc => w2 hl (w1 hl hacc), fun | w, g + 1, hw, hg => ?_⟩
      simp only [parseAttributes, s1 w w (by omega) (by omega), s2 w g (by omega) (by omega)]
    · refine ⟨Nat.le_refl _, fun _ hacc => hacc, fun | w, g + 1, hw, hg => ?_⟩
      simp only [parseAttributes]

theorem parseSetBool_le {b} (h : parseSetBool ts = some (b, r)) : r.length ≤ ts.length := by
  paths parseSetBool at h
  · simp only [List.length_cons]; omega
  · simp only [List.length_cons]; omega
  · exact Nat.le_refl _

theorem parseInterpArgs_spec {ls} (h : parseInterpArgs f ts = some (ls, r)) :
    r.length ≤ ts.length ∧ ∀ g, ts.length < g → parseInterpArgs g ts = some (ls, r) := by
  induction f generalizing ts ls r with
  | zero => cases h
  | succ f ih =>
    paths parseInterpArgs at h
    · exact ⟨Nat.le_refl _, fun | _ + 1, _ => rfl⟩
    · have := parseLit_lt ‹_›
      obtain ⟨l1, s1⟩ := ih ‹_›
      simp only [List.length_cons] at *
      refine ⟨by omega, fun | g + 1, hg => ?_⟩
      simp only [parseInterpArgs, s1 g (by omega), *]
    · refine ⟨Nat.le_of_lt (parseLit_lt ‹_›), fun | g + 1, hg => ?_⟩
      simp only [parseInterpArgs, *]

theorem parseInterpreter_spec {x} (h : parseInterpreter v ts = some (x, r)) :
    r.length < ts.length ∧ (∃ c as, x = .interp c as) ∧ ∀ w, ts.length < w → parseInterpreter w ts = some (x, r) := by
  paths parseInterpreter at h
  all_goals have := parseLit_lt ‹_›
  · obtain ⟨l1, s1⟩ := parseInterpArgs_spec ‹_›
    simp only [List.length_cons] at *
    exact ⟨by omega, ⟨_, _, rfl⟩, fun w hw => by simp only [parseInterpreter, s1 w (by omega), *]⟩
  · simp only [List.length_cons] at *
    exact ⟨by omega, ⟨_, _, rfl⟩, fun w hw => by simp only [parseInterpreter, *]⟩

theorem parseSet_spec {s} (h : parseSet v ts = some (s, r)) :
    r.length < ts.length ∧ WFSetting s ∧ ∀ w, ts.length < w → parseSet w ts = some (s, r) := by
  paths parseSet at h
  · have := parseSetBool_le ‹_›
    simp only [List.length_cons]
    exact ⟨by omega, ‹_›, fun w hw => by simp only [parseSet, *]⟩
  · have := parseLit_lt ‹_›
    simp only [List.length_cons]
    exact ⟨by omega, ‹_›, fun w hw => by simp only [parseSet, *]⟩
  · obtain ⟨l1, ⟨c, as, rfl⟩, s1⟩ := parseInterpreter_spec ‹_›
    simp only [List.length_cons] at *
    exact ⟨by omega, ‹_›, fun w hw => by simp only [parseSet, s1 w (by omega), *]⟩

end Just.Ast

namespace Just.Ast
open Just Just.Syntax Just.Header Just.Items

def Outcome.Progress (ts : List Tk) : Outcome → Prop
  | .more _ _ rest => rest.length < ts.length
  | .done _ => True

theorem Outcome.Progress.mono {ts1 ts : List Tk} {o : Outcome} (h : o.Progress ts1) (hle : ts1.length ≤ ts.length) : o.Progress ts := by
  cases o with
  | more a e r => simp only [Outcome.Progress] at h ⊢; omega
  | done a => trivial

theorem acceptQuestion_le {ts r : List Tk} (h : (acceptQuestion ts).2 = r) : r.length ≤ ts.length := by
  subst h
  unfold acceptQuestion
  split <;> simp

theorem parseModPath_le {ts p r} (h : parseModPath ts = some (p, r)) : r.length ≤ ts.length := by
  unfold parseModPath at h
  split at h
  case h_5 => cases h; exact Nat.le_refl _
  all_goals
    obtain ⟨x, hx, hp⟩ := Option.map_eq_some_iff.mp h
    cases hp
    exact Nat.le_of_lt (parseLit_lt hx)

def Outcome.OK (litLe : String → String → Bool) : Outcome → Prop
  | .more acc _ _ | .done acc => ∀ it ∈ acc, WFItem litLe it

/-- What a turn of the loop leaves: fewer tokens when it goes on, and well-formed items when those read before were and
the attributes of the turn are a valid sorted set. -/
def Outcome.Good (litLe : String → String → Bool) (attrs : List Attr) (acc : List Item) (ts : List Tk) (o : Outcome) : Prop :=
  o.Progress ts ∧ (WFAttrs litLe attrs → (∀ it ∈ acc, WFItem litLe it) → o.OK litLe)

variable {litLe : String → String → Bool} {fuel : Nat} {attrs : List Attr} {acc : List Item} {eol : Bool} {ts : List Tk} {o : Outcome}

theorem recipeStep_good (h : recipeStep fuel attrs acc eol ts = some o) : o.Good litLe attrs acc ts := by
  paths recipeStep at h
  all_goals
    obtain ⟨l1, w1, -⟩ := parseRecipe_spec ‹_›
    refine ⟨l1, fun hattrs hacc => List.forall_mem_cons.mpr ⟨⟨⟨hattrs, w1, Bool.eq_false_iff.mpr ‹_›⟩, ?_⟩, (popDoc_wf acc eol hacc).1⟩⟩
  · exact ⟨fun _ => rfl, nofun⟩
  · exact ⟨fun hd => absurd hd ‹_›, (popDoc_wf acc eol hacc).2⟩

theorem modStep_good (h : modStep attrs acc eol ts = some o) : o.Good litLe attrs acc ts := by
  paths modStep at h
  all_goals
    have := parseModPath_le ‹_›
    have := acceptQuestion_le ‹_›
    simp only [Outcome.Good, Outcome.Progress, List.length_cons] at *
    exact ⟨by omega, fun _ hacc => List.forall_mem_cons.mpr ⟨trivial, (popDoc_wf acc eol hacc).1⟩⟩

theorem importStep_good (h : importStep attrs acc eol ts = some o) : o.Good litLe attrs acc ts := by
  paths importStep at h
  exact ⟨Nat.lt_succ_of_le (Nat.le_trans (Nat.le_of_lt (parseLit_lt ‹_›)) (acceptQuestion_le rfl)),
    fun _ hacc => List.forall_mem_cons.mpr ⟨trivial, hacc⟩⟩

theorem of_ite {α : Type} {c : Prop} [Decidable c] {a b : Option α} {x : α} (h : (if c then a else b) = some x) : a = some x ∨ b = some x := by
  split at h
  · exact .inl h
  · exact .inr h

/- `identStep` is a chain of `if`s: `split` is slow on it (it simplifies the whole chain at every step), so the chain is
taken apart by `of_ite`, the goal for the rest going last each time. -/
theorem identStep_good {kw : String} (h : identStep fuel kw attrs acc eol ts = some o) : o.Good litLe attrs acc ts := by
  iterate 7 (rcases of_ite h with h | h; rotate_left)
  all_goals repeat' split at h
  all_goals first | cases h; done | cases h | skip
  -- one goal is left per branch, in this order: the last `else` (`recipeStep`), `alias`, `export`, `unexport`, `import`,
  -- `mod`, `set`, the assignment without keyword
  · exact recipeStep_good h
  · exact ⟨(parseAlias_spec ‹_›).1, fun _ hacc => List.forall_mem_cons.mpr ⟨trivial, hacc⟩⟩
  -- `export` goes last, beside the other assignment, which has the same proof: `unexport`, `import`, `mod`, `set` follow
  rotate_left
  · have := expectEol_le ‹_›
    simp only [Outcome.Good, Outcome.Progress, List.length_cons]
    exact ⟨by omega, fun _ hacc => List.forall_mem_cons.mpr ⟨trivial, hacc⟩⟩
  · exact importStep_good h
  · exact modStep_good h
  · exact ⟨(parseSet_spec ‹_›).1, fun _ hacc => List.forall_mem_cons.mpr ⟨(parseSet_spec ‹_›).2.1, hacc⟩⟩
  all_goals
    obtain ⟨l1, w1, -⟩ := parseAssignment_spec ‹_›
    exact ⟨l1, fun _ hacc => List.forall_mem_cons.mpr ⟨⟨w1, fun hu => by simp [hu]⟩, hacc⟩⟩

/-- **Every turn of the loop of `parse_ast` that goes on has consumed at least one token**, and the items read stay
well-formed. -/
theorem step_good (h : step litLe fuel acc eol ts = some o) :
    o.Progress ts ∧ (LinearLe litLe → (∀ it ∈ acc, WFItem litLe it) → o.OK litLe) := by
  unfold step at h
  split at h
  · cases h
  next attrs ts1 hat =>
  obtain ⟨l1, w1, -⟩ := parseAttributes_spec hat
  suffices o.Good litLe attrs acc ts1 from ⟨this.1.mono l1, fun hl => this.2 (w1 hl ⟨nofun, .nil⟩)⟩
  repeat' split at h
  all_goals first | cases h; done | cases h | skip
  · have := expectEol_le ‹_›
    simp only [Outcome.Good, Outcome.Progress, List.length_cons]
    exact ⟨by omega, fun _ hacc => List.forall_mem_cons.mpr ⟨trimEnd_idem _, hacc⟩⟩
  · exact ⟨Nat.lt_succ_self _, fun _ hacc => hacc⟩
  · exact ⟨trivial, fun _ hacc => hacc⟩
  · exact identStep_good h
  · exact recipeStep_good h

variable {v w n : Nat} (ha : Agree v w n)
include ha

theorem recipeStep_agree (attrs : List Attr) (acc : List Item) (eol : Bool) {ts : List Tk} (hn : ts.length ≤ n) :
    recipeStep v attrs acc eol ts = recipeStep w attrs acc eol ts := by
  unfold recipeStep
  rw [ha.ext (g := (parseRecipe · ts)) fun ha h => (parseRecipe_spec h).2.2 _ n ha hn]

theorem identStep_agree (kw : String) (attrs : List Attr) (acc : List Item) (eol : Bool) {ts : List Tk} (hn : ts.length ≤ n) :
    identStep v kw attrs acc eol ts = identStep w kw attrs acc eol ts := by
  unfold identStep
  rw [ha.ext (g := (parseAlias · ts)) fun ha h => (parseAlias_spec h).2 _ (Nat.lt_of_le_of_lt hn ha.right),
    ha.ext (g := (parseAssignment · ts)) fun ha h => (parseAssignment_spec h).2.2 _ n ha hn,
    ha.ext (g := (parseSet · ts)) fun ha h => (parseSet_spec h).2.2 _ (Nat.lt_of_le_of_lt hn ha.right),
    recipeStep_agree ha attrs acc eol hn]

/- Both callees take the tokens left by `parseAttributes`, which are free in the goal: they are rewritten under the `match`. -/
theorem step_agree (litLe : String → String → Bool) (acc : List Item) (eol : Bool) {ts : List Tk} (hn : ts.length ≤ n) :
    step litLe v acc eol ts = step litLe w acc eol ts := by
  unfold step
  rw [ha.ext (g := fun v => parseAttributes litLe v v [] ts) fun ha h =>
    (parseAttributes_spec h).2.2 _ _ (Nat.lt_of_le_of_lt hn ha.right) (Nat.lt_of_le_of_lt hn ha.right)]
  cases hat : parseAttributes litLe w w [] ts with
  | none => rfl
  | some x =>
    have hx : x.2.length ≤ n := Nat.le_trans (parseAttributes_spec hat).1 hn
    simp only [fun kw => identStep_agree ha kw x.1 acc eol hx, recipeStep_agree ha x.1 acc eol hx]

omit ha

/-- The item loop depends on the fuel of the functions it calls only through `step`, and on its own fuel not at all once
that exceeds the number of tokens: it takes at most as many turns as there are tokens. -/
theorem parseItems_congr {litLe : String → String → Bool} {v w n : Nat}
    (hs : ∀ acc eol ts, ts.length ≤ n → step litLe v acc eol ts = step litLe w acc eol ts) :
    ∀ (f g : Nat) (acc : List Item) (eol : Bool) (ts : List Tk), ts.length ≤ n → ts.length < f → ts.length < g →
      parseItems litLe v f acc eol ts = parseItems litLe w g acc eol ts := by
  intro f
  induction f with
  | zero => intro g acc eol ts _ h; omega
  | succ f ih =>
    intro g acc eol ts hn hf hg
    obtain ⟨g, rfl⟩ : ∃ g', g = g' + 1 := ⟨g - 1, by omega⟩
    simp only [parseItems, hs acc eol ts hn]
    cases hw : step litLe w acc eol ts with
    | none => rfl
    | some o =>
      cases o with
      | done acc' => rfl
      | more acc' eol' rest =>
        have hp : rest.length < ts.length := (step_good hw).1
        exact ih g acc' eol' rest (by omega) (by omega) (by omega)

/-- **`parse_ast` returns the same with any two fuels that agree on inputs of the length of its own.** -/
theorem parseAst_agree (litLe : String → String → Bool) {v w : Nat} (ts : List Tk) (ha : Agree v w ts.length) :
    parseAst litLe v ts = parseAst litLe w ts := by
  have key : ∀ ts', ts'.length ≤ ts.length → parseItems litLe v v [] false ts' = parseItems litLe w w [] false ts' :=
    fun ts' h' => parseItems_congr (fun acc eol _ h'' => step_agree ha litLe acc eol h'') _ _ [] false ts' h'
      (Nat.lt_of_le_of_lt h' ha.left) (Nat.lt_of_le_of_lt h' ha.right)
  unfold parseAst
  split
  · exact key _ (by simp)
  · exact key _ (Nat.le_refl _)

theorem parseItems_wf {litLe : String → String → Bool} (hl : LinearLe litLe) {fuel f acc eol ts items} (hacc : ∀ it ∈ acc, WFItem litLe it)
    (h : parseItems litLe fuel f acc eol ts = some items) : ∀ it ∈ items, WFItem litLe it := by
  induction f generalizing acc eol ts with
  | zero => cases h
  | succ f ih =>
    simp only [parseItems] at h
    split at h
    · cases h
    next hs => cases h; exact fun it hit => (step_good hs).2 hl hacc it (List.mem_reverse.mp hit)
    next hs => exact ih ((step_good hs).2 hl hacc) h

end Just.Ast
