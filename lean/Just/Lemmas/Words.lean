import Just.Model.Words
/-
About `Just.Words` (`override_from_value`, src/positional.rs): an identifier contains no `=` (`ident_no_eq`), so the
split at the first `=` of `NAME=VALUE` gives back `NAME` and `VALUE` (`splitFirstEq_append`).
-/
namespace Just.Words

theorem splitFirstEq_append (n v : List Char) (h : '=' ∉ n) : splitFirstEq (n ++ '=' :: v) = some (n, v) := by
  induction n <;> grind [splitFirstEq]

theorem ident_no_eq : ∀ (n : List Char), isIdentifier n = true → '=' ∉ n
  | [], h => by simp [isIdentifier] at h
  | c :: cs, h => by
    simp only [isIdentifier, Bool.and_eq_true, List.all_eq_true] at h
    -- `=` can neither start nor continue an identifier
    intro hm
    rcases List.mem_cons.mp hm with rfl | hm
    · exact absurd h.1 (by decide)
    · exact absurd (h.2 _ hm) (by decide)

end Just.Words
