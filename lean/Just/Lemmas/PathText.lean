/-
Text-level idempotence of lexical cleaning: the cleaned component list, written out with
`PathBuf::push` and read again with `Path::components`, is the same list — so cleaning a cleaned
path TEXT changes nothing.
-/
import Just.Lemmas.Path
namespace Just.Path

theorem splitSlash_eq (cs acc : List Char) : splitSlash cs acc = cs.splitOnPPrepend (· = '/') acc := by
  fun_induction splitSlash cs acc <;> simp_all [List.splitOnPPrepend]

theorem splitSlash_no_slash {a : List Char} (h : '/' ∉ a) : splitSlash a [] = [a] := by
  rw [splitSlash_eq]; exact List.splitOnP_eq_singleton fun x hx => decide_eq_false fun e => h (e ▸ hx)

theorem splitSlash_append_slash (a b : List Char) : splitSlash (a ++ '/' :: b) [] = splitSlash a [] ++ splitSlash b [] := by
  simp only [splitSlash_eq]; exact List.splitOnP_append_cons a b (decide_eq_true rfl)

def validName (s : List Char) : Prop := s ≠ [] ∧ '/' ∉ s ∧ s ≠ ['.'] ∧ s ≠ ['.', '.']

def NamesValid (l : List Comp) : Prop := ∀ s, Comp.normal s ∈ l → validName s

theorem splitSlash_parts (cs acc : List Char) (hacc : '/' ∉ acc) : ∀ part ∈ splitSlash cs acc, '/' ∉ part := by
  fun_induction splitSlash cs acc <;> grind

theorem components_valid (p : List Char) : NamesValid (components p) := by
  have hv : ∀ first, NamesValid (partsComps first (splitSlash p [])) := fun first s hs => by
    obtain ⟨part, hp, f, hc⟩ := mem_partsComps hs
    rcases partComp_cases f part hc with h | h | h | ⟨h, h1, h2, h3⟩ <;> cases h
    exact ⟨h1, splitSlash_parts p [] List.not_mem_nil _ hp, h2, h3⟩
  unfold components
  split
  · exact fun s hs => hv false s ((List.mem_cons.mp hs).resolve_left nofun)
  · exact hv true

theorem cleanComps_subset (cs : List Comp) : ∀ x ∈ cleanComps cs, x ∈ cs := by
  refine fun x hx => List.foldlRecOn cs cleanStep (motive := fun acc => ∀ x ∈ acc, x ∈ cs) (fun _ h => (List.not_mem_nil h).elim)
    (fun acc h c hc x hx => ?_) x (List.mem_reverse.mp hx)
  rcases cleanStep_cases acc c with e | e | ⟨s, e⟩
  · exact h x (e ▸ hx)
  · exact (List.mem_cons.mp (e ▸ hx)).elim (fun e : x = c => e ▸ hc) (h x)
  · exact h x (e ▸ .tail _ hx)

theorem cleanComps_valid (cs : List Comp) (h : NamesValid cs) : NamesValid (cleanComps cs) := fun s hs =>
  h s (cleanComps_subset cs _ hs)

/-- `..` or a proper name: what `push` writes after a separator and `components` reads back as it was -/
def Plain (c : Comp) : Prop := c = .parent ∨ ∃ s, c = .normal s ∧ validName s

theorem compStr_plain {c : Comp} (h : Plain c) :
    compStr c ≠ [] ∧ '/' ∉ compStr c ∧ ∀ first, partsComps first [compStr c] = [c] := by
  rcases h with rfl | ⟨s, rfl, h1, h2, h3, h4⟩
  · exact ⟨by simp [compStr], by simp [compStr], fun first => by simp [partsComps, partComp, compStr]⟩
  · exact ⟨h1, h2, fun first => by simp [partsComps, partComp, compStr, h1, h3, h4]⟩

/-- a last part that is read the same in first place and later is read on its own -/
theorem partsComps_append (first : Bool) (xs : List (List Char)) (s : List Char) (r : List Comp)
    (h : ∀ f, partsComps f [s] = r) : partsComps first (xs ++ [s]) = partsComps first xs ++ r := by
  induction xs generalizing first with
  | nil => simp [h, partsComps]
  | cons x xs ih => simp only [List.cons_append, partsComps]; split <;> simp [ih]

theorem components_cons (x : Char) (xs : List Char) : components (x :: xs) =
    if x = '/' then .root :: partsComps false (splitSlash (x :: xs) []) else partsComps true (splitSlash (x :: xs) []) := by
  unfold components
  split
  · rename_i h; cases h; rfl
  · rename_i h; rw [if_neg fun e : x = '/' => h xs (e ▸ rfl)]

/-- appending to a non-empty text leaves its first character, so what is read is decided by the parts alone -/
theorem components_append {buf : List Char} (t : List Char) (hb : buf ≠ []) (r : List Comp)
    (h : ∀ f, partsComps f (splitSlash (buf ++ t) []) = partsComps f (splitSlash buf []) ++ r) :
    components (buf ++ t) = components buf ++ r := by
  cases buf with
  | nil => exact absurd rfl hb
  | cons x xs =>
    rw [List.cons_append] at h ⊢
    rw [components_cons, components_cons]
    split <;> simp [h]

/-- **what `push` writes is read back as one more component**, whatever the buffer holds -/
theorem components_push (buf : List Char) {c : Comp} (hc : Plain c) : components (push buf c) = components buf ++ [c] := by
  obtain ⟨hne, hns, hone⟩ := compStr_plain hc
  fun_cases push buf c
  case case1 => rcases hc with h | ⟨_, h, _⟩ <;> cases h
  case case2 hb _ =>
    subst hb
    cases hs : compStr c with
    | nil => exact absurd hs hne
    | cons x xs =>
      rw [components_cons, if_neg fun e : x = '/' => hns (hs ▸ e ▸ .head _), ← hs, splitSlash_no_slash hns]
      exact hone true
  case case3 hb hl _ =>
    -- the buffer ends in a slash: its last part is empty and is replaced
    obtain ⟨b0, rfl⟩ := List.getLast?_eq_some_iff.mp hl
    refine components_append _ hb _ fun f => ?_
    rw [List.append_assoc, List.singleton_append, splitSlash_append_slash, splitSlash_append_slash,
      splitSlash_no_slash hns, partsComps_append _ _ _ _ hone, show splitSlash [] [] = [[]] from rfl,
      partsComps_append _ _ [] [] fun _ => rfl, List.append_nil]
  case case4 hb _ _ =>
    rw [List.append_assoc, List.singleton_append]
    refine components_append _ hb _ fun f => ?_
    rw [splitSlash_append_slash, splitSlash_no_slash hns]
    exact partsComps_append _ _ _ _ hone

theorem components_foldl_push : ∀ (l : List Comp) (buf : List Char), (∀ c ∈ l, Plain c) →
    components (l.foldl push buf) = components buf ++ l
  | [], _, _ => by simp
  | c :: l, buf, h => by
    rw [List.foldl_cons, components_foldl_push l _ fun x hx => h x (.tail _ hx), components_push buf (h c (.head _))]
    simp

/-- **writing a list without `.` whose only root stands first out and reading it again gives the same list** -/
theorem components_render (l : List Comp) (hcur : .cur ∉ l) (hroot : ∀ c ∈ l.tail, c ≠ .root) (hv : NamesValid l) :
    components (render l) = l := by
  have plain : ∀ c ∈ l, c ≠ .root → Plain c := fun c hc hne =>
    match c, hc, hne with
    | .parent, _, _ => .inl rfl
    | .normal s, hm, _ => .inr ⟨s, rfl, hv s hm⟩
    | .cur, hm, _ => absurd hm hcur
    | .root, _, hne => absurd rfl hne
  cases l with
  | nil => rfl
  | cons c r =>
    rw [render, List.foldl_cons, components_foldl_push r _ fun x hx => plain x (.tail _ hx) (hroot x hx)]
    by_cases hc : c = .root
    · rw [hc]; rfl
    · rw [components_push [] (plain c (.head _) hc)]; rfl

theorem lexiclean_idempotent (p : List Char) : lexiclean (lexiclean p) = lexiclean p := by
  unfold lexiclean
  by_cases h1 : (components p).length ≤ 1
  · simp only [h1, if_true]
  · obtain ⟨hcur, hroot, _⟩ := cleanComps_result _ (components_root_first p)
    simp only [h1, if_false, components_render _ hcur hroot (cleanComps_valid _ (components_valid p)),
      cleanComps_idempotent _ (components_root_first p), ite_self]

end Just.Path
