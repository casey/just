/-
A readable big-step specification `Runs` of the recipe runner and the proof that the executable
model `runRecipe` / `runDeps` refines it.  Property theorems are proved by induction on `Runs`,
or through two principles derived from it: where the events of a run come from
(`Runs.forall_events`) and how a run fails (`Runs.error_cases`).
-/
import Just.Lemmas.RunLeaf
namespace Just.Run
open Just.Props.C02

inductive Call where
  | recipe (fuel : Nat) (sub : Bool) (ri : Nat) (given : Args) (ran : Ran) (k : Nat)
  | deps (fuel : Nat) (sub : Bool) (ds : List Dep) (ps : Args) (ran : Ran) (k : Nat)

inductive Runs (P : Prog) (cfg : Cfg) (env : Env) : Call → List Ev → Except Err Ran → Prop where
  | memo {fuel sub ri given ran k} : (ri, given) ∈ ran →
      Runs P cfg env (.recipe (fuel + 1) sub ri given ran k) [] (.ok ran)
  | outOfFuel {sub ri given ran k} :
      Runs P cfg env (.recipe 0 sub ri given ran k) [] (.error .fuel)
  | noRecipe {fuel sub ri given ran k} : (ri, given) ∉ ran → P.recipes[ri]? = none →
      Runs P cfg env (.recipe (fuel + 1) sub ri given ran k) [] (.error .internal)
  | notConfirmed {fuel sub ri given ran k r} : (ri, given) ∉ ran → P.recipes[ri]? = some r →
      (r.confirm && !cfg.yes) = true → env.ans k = false →
      Runs P cfg env (.recipe (fuel + 1) sub ri given ran k) [Ev.prompt ri] (.error .notConfirmed)
  | bindFail {fuel sub ri given ran k r e1 e} : (ri, given) ∉ ran → P.recipes[ri]? = some r →
      ((r.confirm && !cfg.yes) = true → env.ans k = true) →
      bindParams cfg env r.params given [] = (e1, .error e) →
      Runs P cfg env (.recipe (fuel + 1) sub ri given ran k) (promptOf cfg r ri ++ e1) (.error e)
  | priorsFail {fuel sub ri given ran k r e1 ps e2 e} : (ri, given) ∉ ran → P.recipes[ri]? = some r →
      ((r.confirm && !cfg.yes) = true → env.ans k = true) →
      bindParams cfg env r.params given [] = (e1, .ok ps) →
      Runs P cfg env (.deps fuel sub r.priors ps ran (k + countPrompts (promptOf cfg r ri))) e2 (.error e) →
      Runs P cfg env (.recipe (fuel + 1) sub ri given ran k) (promptOf cfg r ri ++ e1 ++ e2) (.error e)
  | bodyFail {fuel sub ri given ran k r e1 ps e2 ran1 e3 e} : (ri, given) ∉ ran → P.recipes[ri]? = some r →
      ((r.confirm && !cfg.yes) = true → env.ans k = true) →
      bindParams cfg env r.params given [] = (e1, .ok ps) →
      Runs P cfg env (.deps fuel sub r.priors ps ran (k + countPrompts (promptOf cfg r ri))) e2 (.ok ran1) →
      runBody cfg env ri r given ps = (e3, .error e) →
      Runs P cfg env (.recipe (fuel + 1) sub ri given ran k)
        (promptOf cfg r ri ++ e1 ++ e2 ++ [.body ri given sub] ++ e3) (.error e)
  | subsFail {fuel sub ri given ran k r e1 ps e2 ran1 e3 e4 e} : (ri, given) ∉ ran → P.recipes[ri]? = some r →
      ((r.confirm && !cfg.yes) = true → env.ans k = true) →
      bindParams cfg env r.params given [] = (e1, .ok ps) →
      Runs P cfg env (.deps fuel sub r.priors ps ran (k + countPrompts (promptOf cfg r ri))) e2 (.ok ran1) →
      runBody cfg env ri r given ps = (e3, .ok ()) →
      Runs P cfg env (.deps fuel true r.subs ps [] (k + countPrompts (promptOf cfg r ri) + countPrompts e2)) e4 (.error e) →
      Runs P cfg env (.recipe (fuel + 1) sub ri given ran k)
        (promptOf cfg r ri ++ e1 ++ e2 ++ [.body ri given sub] ++ e3 ++ e4) (.error e)
  /-- the full run: prompt, parameters, priors (sharing the memo), body, subsequents (fresh memo),
  then the invocation is recorded -/
  | done {fuel sub ri given ran k r e1 ps e2 ran1 e3 e4 ranS} : (ri, given) ∉ ran → P.recipes[ri]? = some r →
      ((r.confirm && !cfg.yes) = true → env.ans k = true) →
      bindParams cfg env r.params given [] = (e1, .ok ps) →
      Runs P cfg env (.deps fuel sub r.priors ps ran (k + countPrompts (promptOf cfg r ri))) e2 (.ok ran1) →
      runBody cfg env ri r given ps = (e3, .ok ()) →
      Runs P cfg env (.deps fuel true r.subs ps [] (k + countPrompts (promptOf cfg r ri) + countPrompts e2)) e4 (.ok ranS) →
      Runs P cfg env (.recipe (fuel + 1) sub ri given ran k)
        (promptOf cfg r ri ++ e1 ++ e2 ++ [.body ri given sub] ++ e3 ++ e4) (.ok ((ri, given) :: ran1))
  | depsNil {fuel sub ps ran k} : Runs P cfg env (.deps fuel sub [] ps ran k) [] (.ok ran)
  | depsSkip {fuel sub d ds ps ran k} : cfg.noDeps = true →
      Runs P cfg env (.deps fuel sub (d :: ds) ps ran k) [] (.ok ran)
  | depsEvalFail {fuel sub d ds ps ran k e1 e} : cfg.noDeps = false →
      evalList cfg env ps d.args = (e1, .error e) →
      Runs P cfg env (.deps fuel sub (d :: ds) ps ran k) e1 (.error e)
  | depsRecFail {fuel sub d ds ps ran k e1 given e2 e} : cfg.noDeps = false →
      evalList cfg env ps d.args = (e1, .ok given) →
      Runs P cfg env (.recipe fuel sub d.target given ran k) e2 (.error e) →
      Runs P cfg env (.deps fuel sub (d :: ds) ps ran k) (e1 ++ e2) (.error e)
  | depsCons {fuel sub d ds ps ran k e1 given e2 ran1 e3 res} : cfg.noDeps = false →
      evalList cfg env ps d.args = (e1, .ok given) →
      Runs P cfg env (.recipe fuel sub d.target given ran k) e2 (.ok ran1) →
      Runs P cfg env (.deps fuel sub ds ps ran1 (k + countPrompts e2)) e3 res →
      Runs P cfg env (.deps fuel sub (d :: ds) ps ran k) (e1 ++ e2 ++ e3) res

theorem runDeps_sound_of (P : Prog) (cfg : Cfg) (env : Env) (fuel : Nat)
    (hR : ∀ sub ri given ran k es res, runRecipe P cfg env fuel sub ri given ran k = (es, res) →
      Runs P cfg env (.recipe fuel sub ri given ran k) es res) :
    ∀ ds sub ps ran k es res, runDeps P cfg env fuel sub ds ps ran k = (es, res) →
      Runs P cfg env (.deps fuel sub ds ps ran k) es res := by
  intro ds
  induction ds with
  | nil => intro sub ps ran k es res h; rw [runDeps_nil] at h; cases h; exact .depsNil
  | cons d ds ih =>
    intro sub ps ran k es res h
    rw [runDeps_cons] at h
    split at h
    · cases h; exact .depsSkip ‹_›
    · have hnd : cfg.noDeps = false := by simpa using ‹¬cfg.noDeps = true›
      rcases he : evalList cfg env ps d.args with ⟨e1, _ | given⟩ <;> rw [he] at h
      · cases h; exact .depsEvalFail hnd he
      · rw [andThen_ok] at h
        rcases h2 : runRecipe P cfg env fuel sub d.target given ran k with ⟨e2, _ | ran1⟩ <;> rw [h2] at h
        · cases h; exact .depsRecFail hnd he (hR _ _ _ _ _ _ _ h2)
        · rw [andThen_ok] at h; cases h
          rw [← List.append_assoc]; exact .depsCons hnd he (hR _ _ _ _ _ _ _ h2) (ih _ _ _ _ _ _ rfl)

theorem runFound_sound {P : Prog} {cfg : Cfg} {env : Env} {fuel : Nat}
    (hD : ∀ ds sub ps ran k es res, runDeps P cfg env fuel sub ds ps ran k = (es, res) →
      Runs P cfg env (.deps fuel sub ds ps ran k) es res)
    {sub : Bool} {ri : Nat} {r : Recipe} {given : Args} {ran : Ran} {k : Nat} (hm : (ri, given) ∉ ran)
    (hr : P.recipes[ri]? = some r) {es : List Ev} {res : Except Err Ran}
    (h : runFound P cfg env fuel sub ri r given ran k = (es, res)) :
    Runs P cfg env (.recipe (fuel + 1) sub ri given ran k) es res := by
  unfold runFound confirmStep at h
  split at h
  · rename_i hc
    simp only [Bool.and_eq_true, Bool.not_eq_true'] at hc
    cases h
    have : promptOf cfg r ri = [Ev.prompt ri] := by simp [promptOf, hc.1]
    rw [this]
    exact .notConfirmed hm hr (by simpa using hc.1) hc.2
  · have hans : (r.confirm && !cfg.yes) = true → env.ans k = true := by
      intro hx; cases hy : env.ans k <;> simp_all
    rw [andThen_ok] at h
    rcases hb : bindParams cfg env r.params given [] with ⟨e1, _ | ps⟩ <;> rw [hb] at h
    · cases h; exact .bindFail hm hr hans hb
    · rw [andThen_ok] at h
      rcases h2 : runDeps P cfg env fuel sub r.priors ps ran (k + countPrompts (promptOf cfg r ri)) with ⟨e2, _ | ran1⟩ <;> rw [h2] at h
      · cases h; rw [← List.append_assoc]; exact .priorsFail hm hr hans hb (hD _ _ _ _ _ _ _ h2)
      · rw [andThen_ok, andThen_ok] at h
        rcases h3 : runBody cfg env ri r given ps with ⟨e3, _ | _⟩ <;> rw [h3] at h
        · cases h
          simp only [← List.append_assoc]
          exact .bodyFail hm hr hans hb (hD _ _ _ _ _ _ _ h2) h3
        · rw [andThen_ok] at h
          rcases h4 : runDeps P cfg env fuel true r.subs ps []
            (k + countPrompts (promptOf cfg r ri) + countPrompts e2) with ⟨e4, _ | ranS⟩ <;> rw [h4] at h
          · cases h
            simp only [← List.append_assoc]
            exact .subsFail hm hr hans hb (hD _ _ _ _ _ _ _ h2) h3 (hD _ _ _ _ _ _ _ h4)
          · rw [andThen_ok] at h; cases h
            simp only [List.append_nil, ← List.append_assoc]
            exact .done hm hr hans hb (hD _ _ _ _ _ _ _ h2) h3 (hD _ _ _ _ _ _ _ h4)

theorem runRecipe_sound (P : Prog) (cfg : Cfg) (env : Env) :
    ∀ fuel sub ri given ran k es res, runRecipe P cfg env fuel sub ri given ran k = (es, res) →
      Runs P cfg env (.recipe fuel sub ri given ran k) es res := by
  intro fuel
  induction fuel with
  | zero => intro sub ri given ran k es res h; rw [runRecipe_zero] at h; cases h; exact .outOfFuel
  | succ n ih =>
    intro sub ri given ran k es res h
    rw [runRecipe_succ] at h
    split at h
    · cases h; exact .memo ‹_›
    · split at h
      · cases h; exact .noRecipe ‹_› ‹_›
      · exact runFound_sound (runDeps_sound_of P cfg env n ih) ‹_› ‹_› h

theorem runDeps_sound (P : Prog) (cfg : Cfg) (env : Env) (fuel : Nat) :
    ∀ ds sub ps ran k es res, runDeps P cfg env fuel sub ds ps ran k = (es, res) →
      Runs P cfg env (.deps fuel sub ds ps ran k) es res :=
  runDeps_sound_of P cfg env fuel (runRecipe_sound P cfg env fuel)

inductive Child (P : Prog) : Call → Call → Prop where
  | priors {fuel sub ri given ran k r} (ps k') : P.recipes[ri]? = some r →
      Child P (.recipe (fuel + 1) sub ri given ran k) (.deps fuel sub r.priors ps ran k')
  | subs {fuel sub ri given ran k r} (ps k') : P.recipes[ri]? = some r →
      Child P (.recipe (fuel + 1) sub ri given ran k) (.deps fuel true r.subs ps [] k')
  | head {fuel sub d ds ps ran k} (given) :
      Child P (.deps fuel sub (d :: ds) ps ran k) (.recipe fuel sub d.target given ran k)
  | tail {fuel sub d ds ps ran k} (ran1 k') :
      Child P (.deps fuel sub (d :: ds) ps ran k) (.deps fuel sub ds ps ran1 k')

variable {P : Prog} {cfg : Cfg} {env : Env}

/-- **Where the events of a run come from.**  A property of single events, which may depend on the
call, holds of every event of a run if it holds of what the leaf functions emit, of a recipe's own
prompt and body label, and is inherited from the calls the call makes. -/
theorem Runs.forall_events {p : Call → Ev → Prop}
    (leaf : ∀ c ev, ev.isLeaf = true → (cfg.dryRun = true → ∃ t, ev = .echo t) → p c ev)
    (prompt : ∀ fuel sub ri given ran k, p (.recipe fuel sub ri given ran k) (.prompt ri))
    (body : ∀ fuel sub ri given ran k, p (.recipe fuel sub ri given ran k) (.body ri given sub))
    (up : ∀ {c c' ev}, Child P c c' → p c' ev → p c ev)
    {c : Call} {es : List Ev} {res : Except Err Ran} (h : Runs P cfg env c es res) : ∀ ev ∈ es, p c ev := by
  have lf : ∀ {α : Type} {x : Res α} {es : List Ev} {res : Except Err α} (c : Call), x = (es, res) →
      LeafRun cfg env x → ∀ ev ∈ es, p c ev := fun c h hx ev hev =>
    have hx := leafRun_of_eq h hx
    leaf c ev (hx.leaf ev hev) fun hd => hx.dry hd ev hev
  have pr : ∀ {fuel sub ri given ran k r}, ∀ ev ∈ promptOf cfg r ri, p (.recipe fuel sub ri given ran k) ev := by
    intro fuel sub ri given ran k r ev hev
    unfold promptOf at hev; split at hev
    · rw [List.mem_singleton.mp hev]; exact prompt ..
    · cases hev
  induction h with
  | memo _ | outOfFuel | noRecipe _ _ | depsNil | depsSkip _ => intro _ h; cases h
  | notConfirmed _ _ _ _ => intro ev h; rw [List.mem_singleton.mp h]; exact prompt ..
  | depsEvalFail _ he => exact lf _ he (evalList_leafRun ..)
  | bindFail _ _ _ hb =>
    simp only [List.forall_mem_append]
    exact ⟨pr, lf _ hb (bindParams_leafRun ..)⟩
  | priorsFail _ hr _ hb _ ih =>
    simp only [List.forall_mem_append]
    exact ⟨⟨pr, lf _ hb (bindParams_leafRun ..)⟩, fun ev h => up (.priors _ _ hr) (ih ev h)⟩
  | bodyFail _ hr _ hb _ hbody ih =>
    simp only [List.forall_mem_append, List.forall_mem_singleton]
    exact ⟨⟨⟨⟨pr, lf _ hb (bindParams_leafRun ..)⟩, fun ev h => up (.priors _ _ hr) (ih ev h)⟩, body ..⟩,
      lf _ hbody (runBody_leafRun ..)⟩
  | subsFail _ hr _ hb _ hbody _ ih2 ih4 | done _ hr _ hb _ hbody _ ih2 ih4 =>
    simp only [List.forall_mem_append, List.forall_mem_singleton]
    exact ⟨⟨⟨⟨⟨pr, lf _ hb (bindParams_leafRun ..)⟩, fun ev h => up (.priors _ _ hr) (ih2 ev h)⟩, body ..⟩,
      lf _ hbody (runBody_leafRun ..)⟩, fun ev h => up (.subs _ _ hr) (ih4 ev h)⟩
  | depsRecFail _ he _ ih =>
    simp only [List.forall_mem_append]
    exact ⟨lf _ he (evalList_leafRun ..), fun ev h => up (.head _) (ih ev h)⟩
  | depsCons _ he _ _ ih2 ih3 =>
    simp only [List.forall_mem_append]
    exact ⟨⟨lf _ he (evalList_leafRun ..), fun ev h => up (.head _) (ih2 ev h)⟩,
      fun ev h => up (.tail _ _) (ih3 ev h)⟩

/-- **How a run fails.**  A failed run ran out of fuel, was declined at its prompt, failed in a
leaf function (with `internal`, or with the status of the command its last event started), or made
a call that failed; in each case nothing follows the failure.  `q` holds of every failed run if it
holds in the first three cases, also behind any events, and is inherited from the failed call. -/
theorem Runs.error_cases {q : Call → List Ev → Err → Prop}
    (outOfFuel : ∀ sub ri given ran k, q (.recipe 0 sub ri given ran k) [] .fuel)
    (declined : ∀ c ri, q c [.prompt ri] .notConfirmed)
    (leaf : ∀ c pre el e, e = .internal ∨ EndsFailed env el e → q c (pre ++ el) e)
    (up : ∀ {c c' es e} pre, Child P c c' → q c' es e → q c (pre ++ es) e)
    {c : Call} {es : List Ev} {e : Err} (h : Runs P cfg env c es (.error e)) : q c es e := by
  have lf : ∀ {α : Type} {x : Res α} {el : List Ev} (c : Call) (pre : List Ev), x = (el, .error e) →
      LeafRun cfg env x → q c (pre ++ el) e := fun c pre h hx =>
    leaf c pre _ e ((leafRun_of_eq h hx).fails e rfl)
  generalize hres : Except.error e = res at h
  induction h with
  | memo _ | done _ _ _ _ _ _ _ _ _ | depsNil | depsSkip _ => cases hres
  | outOfFuel => cases hres; exact outOfFuel ..
  | noRecipe _ _ => cases hres; exact leaf _ [] [] _ (.inl rfl)
  | notConfirmed _ _ _ _ => cases hres; exact declined ..
  | bindFail _ _ _ hb => cases hres; exact lf _ _ hb (bindParams_leafRun ..)
  | priorsFail _ hr _ _ _ ih => cases hres; exact up _ (.priors _ _ hr) (ih rfl)
  | bodyFail _ _ _ _ _ hbody _ => cases hres; exact lf _ _ hbody (runBody_leafRun ..)
  | subsFail _ hr _ _ _ _ _ _ ih4 => cases hres; exact up _ (.subs _ _ hr) (ih4 rfl)
  | depsEvalFail _ he => cases hres; exact lf _ [] he (evalList_leafRun ..)
  | depsRecFail _ _ _ ih => cases hres; exact up _ (.head _) (ih rfl)
  | depsCons _ _ _ _ _ ih3 => exact up _ (.tail _ _) (ih3 hres)

end Just.Run
