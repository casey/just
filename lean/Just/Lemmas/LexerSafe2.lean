import Just.Lemmas.LexerSafe
import Just.Lemmas.LexerTotal
/-
The line-start functions, the main loop and the end of `tokenize` keep the lexer idle and the
indentation stack well-shaped and call the token-level functions on a character that fits: neither an
`internal_error` site nor one of the `assert_eq!`s of the lexer is reachable, and the loop ends before
its fuel does.  `tokenizeM_spec` says all of it at once; `tokenize_eq` carries it over to `tokenize`.
-/
namespace Just.Lexer

variable {src : List Char} {α : Type} {P : St → Prop}

inductive StackOK : List (List Char) → Prop
  | base : StackOK [[]]
  | push {x : List Char} {st : List (List Char)} : x ≠ [] → StackOK st → StackOK (x :: st)

theorem StackOK.mem_nil {st : List (List Char)} (h : StackOK st) : [] ∈ st := by
  induction h with
  | base => exact .head _
  | push _ _ ih => exact .tail _ ih

theorem StackOK.dropUntil {st : List (List Char)} (h : StackOK st) (ws : List Char) (hws : ws ∈ st) :
    StackOK (st.dropWhile (fun x => x != ws)) := by
  induction h with
  | base => obtain rfl := List.mem_singleton.1 hws; exact .base
  | @push x st hx hst ih =>
    by_cases hxw : x = ws
    · simpa [List.dropWhile_cons, hxw] using hxw ▸ hst.push hx
    · simpa [List.dropWhile_cons, hxw] using ih ((List.mem_cons.1 hws).resolve_left (Ne.symm hxw))

theorem StackOK.dropAll {st : List (List Char)} (h : StackOK st) : st.dropWhile (fun x => x != []) = [[]] := by
  induction h with
  | base => rfl
  | push hx _ ih => simpa [List.dropWhile_cons, hx] using ih

/-- from an idle state the assertion of `lex_dedent` holds: a dedent token is cut and the stack popped -/
theorem lexDedent_spec : Triple Idle lexDedent (fun s _ s' => Idle s' ∧ s'.indentation = s.indentation.tail) Ordinary := by
  unfold lexDedent
  refine .getBind fun s hs => .ite (fun h => absurd (by rw [hs.2]; omega) h) fun _ => ?_
  exact .bind (Q1 := fun s _ s' => Idle s' ∧ s'.indentation = s.indentation) (fun _ _ => ⟨⟨rfl, rfl⟩, rfl⟩) fun _ _ _ =>
    (setFrame_keep _ fun _ => rfl).post (fun _ _ _ h h' => h' ▸ ⟨h.1, congrArg List.tail h.2⟩)

theorem dedentUntil_spec (ws : List Char) (st : List (List Char)) :
    Triple (fun s => Idle s ∧ s.indentation = st) (dedentUntil ws st)
      (fun _ _ s' => Idle s' ∧ s'.indentation = st.dropWhile (fun x => x != ws)) Ordinary := by
  induction st with
  | nil => exact .pure fun _ hs => hs
  | cons top below ih =>
    unfold dedentUntil
    refine .ite (fun ht => .pure fun s hs => ⟨hs.1, by simp [hs.2, ht]⟩) fun ht => ?_
    rw [List.dropWhile_cons_of_pos (by simpa using ht)]
    exact .seq lexDedent_spec (fun _ h => h.1) fun _ _ hs => ih.pre fun _ h => ⟨h.1, by rw [h.2, hs.2]; rfl⟩

theorem continue_prefix (s : St) (h : (classify s).1 = .continue_) : ∃ r, s.rest = topIndentation s ++ r := by
  have hw := List.takeWhile_append_dropWhile (p := isBlankChar) (l := s.rest)
  rcases (classify_spec s).1 h with heq | hp
  · exact ⟨_, heq ▸ hw.symm⟩
  · obtain ⟨m, hm⟩ := prefix_split (Bool.and_eq_true _ _ ▸ hp).2
    exact ⟨m ++ s.rest.dropWhile isBlankChar, by rw [← List.append_assoc, ← hm, hw]⟩

abbrev KeepsStack (s s' : St) : Prop := StackOK s.indentation → StackOK s'.indentation

/-- `lex_line_start`: what it skips is there, and the stack stays well-shaped: a dedent drops to an entry of the stack,
an indent pushes white space that is not on it -/
theorem lexLineStart_spec : Triple Idle lexLineStart (fun s _ s' => Idle s' ∧ KeepsStack s s') Ordinary := by
  unfold lexLineStart
  refine .getBind fun s hs => ?_
  have hW : Triple Idle (if !(classify s).2.isEmpty then (do advanceWhile isBlankChar; token .whitespace) else pure () : M Unit)
      (fun s _ s' => Idle s' ∧ s'.indentation = s.indentation) Ordinary :=
    .ite (fun _ => .bind (advanceWhile_spec _).total fun _ _ _ => fun _ h => ⟨⟨rfl, rfl⟩, h.same.indentation⟩)
      fun _ => .pure fun _ h => ⟨h, rfl⟩
  have hfail : ∀ k, plainKind k = true → Triple (fun s' => s' = s)
      (do advanceN (classify s).2.length; failWith (mkError k) : M Unit) (fun s _ s' => Idle s' ∧ KeepsStack s s') Ordinary :=
    fun k hk => .seq (advanceN_spec _ (s.rest.dropWhile isBlankChar)).safe
      (fun _ h => h ▸ List.takeWhile_append_dropWhile.symm) fun _ _ _ => .plain hk
  split
  · exact hW.conseq (fun _ h => h ▸ hs) (fun _ _ _ _ h => ⟨h.1, fun hst => h.2 ▸ hst⟩) fun _ _ _ h => h
  · obtain ⟨r, hr⟩ := continue_prefix s ‹_›
    exact .ite (fun _ => .seq (advanceN_spec _ r).total (fun _ h => h ▸ hr) fun _ _ _ => fun _ h =>
      ⟨⟨rfl, rfl⟩, fun hst => h.same.indentation ▸ hst⟩) fun _ => .pure fun _ h => ⟨h ▸ hs, id⟩
  · rename_i hcl
    exact .seq (dedentUntil_spec _ _) (fun _ h => h.symm ▸ ⟨hs, rfl⟩) fun _ _ h0 =>
      hW.conseq (fun _ h => h.1) (fun _ _ _ h h' => ⟨h'.1, fun hst => by
        rw [h'.2, h.2]
        exact (h0 ▸ hst).dropUntil (s.rest.takeWhile isBlankChar) (by simpa using (classify_spec s).2.1 hcl)⟩) fun _ _ _ h => h
  · exact hfail _ rfl
  · exact hfail _ rfl
  · rename_i hcl
    refine .bind (advanceWhile_spec _).total fun s0 _ h0 => .getBind fun s1 h1 => .ite
      (fun _ => fun _ h => ⟨⟨rfl, rfl⟩, fun hst => h ▸ h1.same.indentation ▸ hst⟩) fun _ => ?_
    subst h0
    refine .bind (setFrame_keep _ fun _ => rfl) fun s2 _ h2 =>
      .bind (Q1 := fun s _ s' => Idle s' ∧ s'.indentation = s.indentation) (fun _ _ => ⟨⟨rfl, rfl⟩, rfl⟩) fun s3 _ h3 =>
        (setFrame_keep _ fun s => ?_).post (fun s4 _ s5 h4 h5 => ⟨h5 ▸ h4.1, fun hst => ?_⟩)
    · split <;> rfl
    · -- the white space is not on the stack, whose bottom is the empty string
      have hne : s0.rest.takeWhile isBlankChar ≠ [] := fun hws =>
        (classify_spec s0).2.2 hcl (by simpa [hws] using hst.mem_nil)
      have e5 : s5.indentation = s4.indentation := by rw [h5, St.setFrame]; split <;> rfl
      rw [e5, h4.2, h3, h2, St.setFrame, h1.same.indentation]
      exact hst.push (by rw [h1.cur, hs.1]; simpa using hne)

theorem lineStartIfNeeded_spec : Triple Idle lineStartIfNeeded (fun s _ s' => Idle s' ∧ KeepsStack s s') Ordinary :=
  .getBind fun _ hs => .ite (fun _ => lexLineStart_spec.pre fun _ h => h ▸ hs) fun _ => .pure fun _ h => ⟨h ▸ hs, id⟩

abbrev Diagnosed (src : List Char) : St → Err → Prop := fun _ e => e.kind.isDiagnostic = true ∧ Spans src e.tok

theorem Triple.withInv {m : M α} {Q : St → α → St → Prop} (h : Triple P m Q Ordinary) (hm : Obeys (posSpec src) m) :
    Triple (fun s => Inv src s ∧ P s) m (fun s a s' => Inv src s' ∧ Q s a s') (Diagnosed src) :=
  (hm.and h).conseq (fun _ h => h) (fun _ _ _ _ h => ⟨h.1.1, h.2⟩) fun _ _ _ h => ⟨h.2 trivial, h.1⟩

structure Round (src : List Char) (s : St) (b : Bool) (s' : St) : Prop where
  inv : Inv src s'
  idle : Idle s'
  stack : KeepsStack s s'
  done : b = false → s'.rest = []

theorem stepMain_round : Triple (fun s => Inv src s ∧ Idle s) stepMain (Round src) (Diagnosed src) := by
  unfold stepMain
  refine .bind (lineStartIfNeeded_spec.withInv (posSound src).lineStartIfNeeded) fun _ _ _ => .getBind fun s1 h1 => ?_
  split
  · exact .pure fun _ h => h ▸ ⟨h1.1, h1.2.1, h1.2.2, fun _ => ‹_›⟩
  · rename_i first _ hr
    have hd : Triple (fun s => s = s1) (dispatch first) (fun _ _ s2 => Idle s2 ∧ s2.indentation = s1.indentation) Ordinary :=
      ((dispatch_lex (src := src) first).and (stackSound.dispatch first)).conseq (fun _ _ => ⟨trivial, trivial⟩)
        (fun _ _ _ h h' => ⟨h'.1 (h ▸ h1.1), h ▸ h'.2.2⟩) fun _ _ h h' _ => h'.1 (h ▸ ⟨by simp [hr], h1.2.1.1⟩)
    exact .seq (hd.withInv ((posSound src).dispatch first)) (fun _ h => ⟨h ▸ h1.1, h⟩) fun _ _ _ =>
      .pure fun _ h => ⟨h.1, h.2.1, fun hst => h.2.2 ▸ h1.2.2 hst, nofun⟩

structure LoopInv (src : List Char) (s : St) : Prop where
  inv : Inv src s
  idle : Idle s
  stack : StackOK s.indentation

structure Final (src : List Char) (s : St) : Prop where
  inv : Inv src s
  idle : Idle s
  indentation : s.indentation = [[]]
  rest : s.rest = []

theorem mainLoop_spec (n : Nat) : Triple (fun s => LoopInv src s ∧ s.rest.length < n) (mainLoop n)
    (fun _ _ s' => LoopInv src s' ∧ s'.rest = []) (Diagnosed src) :=
  mainLoop_rule ((stepMain_round.and stepMain_ate).conseq (fun _ h => ⟨⟨h.inv, h.idle⟩, trivial⟩)
    (fun _ _ _ hs h => ⟨⟨h.1.inv, h.1.idle, h.1.stack hs.stack⟩, h.2, h.1.done⟩) fun _ _ _ h => h.1) n

theorem finish_spec : Triple (fun s => LoopInv src s ∧ s.rest = []) finish (fun _ _ s' => Final src s') (Diagnosed src) := by
  have walk : Triple (fun s => Idle s ∧ StackOK s.indentation) finish (fun _ _ s' => Idle s' ∧ s'.indentation = [[]]) Ordinary := by
    unfold finish
    refine .getBind fun s hs => ?_
    split
    · exact .throw fun _ _ => rfl
    · exact .seq (dedentAll_eq _ ▸ dedentUntil_spec [] s.indentation) (fun _ h => h.symm ▸ ⟨hs.1, rfl⟩) fun _ _ _ => fun _ h1 =>
        ⟨⟨rfl, rfl⟩, h1.2.trans hs.2.dropAll⟩
  exact ((walk.withInv (posSound src).finish).and fuelSound.finish).conseq (fun _ h => ⟨⟨h.1.inv, h.1.idle, h.1.stack⟩, trivial⟩)
    (fun s _ s' hs h => ⟨h.1.1, h.1.2.1, h.1.2.2, List.eq_nil_of_length_eq_zero <| Nat.le_zero.1 <|
      show s'.rest.length ≤ ([] : List Char).length from hs.2 ▸ h.2.2⟩)
    fun _ _ _ h => h.1

theorem tokenizeM_spec (src : List Char) :
    Triple (fun s => s = initial src) (tokenizeM src) (fun _ _ s' => Final src s') (Diagnosed src) := by
  unfold tokenizeM
  exact .seq (mainLoop_spec _) (fun _ h => h.symm ▸ ⟨⟨initial_inv src, ⟨rfl, rfl⟩, .base⟩, Nat.lt_succ_self _⟩)
    fun _ _ _ => finish_spec

theorem Final.offset {s : St} (h : Final src s) : s.tokStart.offset = utf8Len src := by
  rw [h.inv.tokStart, posR_offset, h.inv.split, h.rest, h.inv.cur, h.idle.1]; simp

/-- The three `assert_eq!`s at the end of `tokenize` (`token_start == token_end`, `token_start == src.len()`,
`indentation.len() == 1`) hold whenever the main loop and `finish` succeed: `tokenize` is `tokenizeM` run from the
initial state, and the tokens put in order. -/
theorem tokenize_eq (src : List Char) :
    tokenize src = (tokenizeM src (initial src)).map fun p => p.2.tokens.reverse := by
  unfold tokenize
  cases heq : tokenizeM src (initial src) with
  | error e => rfl
  | ok p =>
    have h := (tokenizeM_spec src).ok rfl heq
    simp [Except.map, h.idle.2, h.offset, h.indentation]

end Just.Lexer
