import Just.Model.Imports
/-
Chains of loaded sources: the invariant used by the C15 theorems and by the termination proof.
-/
namespace Just.Imports

/-- what holds of every source the loader pushes: its chain repeats no file, ends with its own file and is one longer than its depth -/
structure GoodSource (s : Source) : Prop where
  nodup : s.chain.Nodup
  last : s.chain.getLast? = some s.file
  len : s.chain.length = s.depth + 1

theorem GoodSource.length_le {s : Source} (hg : GoodSource s) {n : Nat} (hf : ∀ f ∈ s.chain, f < n) :
    s.chain.length ≤ n := by
  have := List.Nodup.length_le_of_subset hg.nodup (fun f hfm => List.mem_range.mpr (hf f hfm))
  simpa using this

theorem goodSource_root : GoodSource ⟨0, [0], 0⟩ := ⟨by simp, by simp, by simp⟩

def Item.target : Item → Option Nat
  | .import t _ | .module _ t _ => t
  | _ => none

def child (cur : Source) (t : Nat) : Source := ⟨t, cur.chain ++ [t], cur.depth + 1⟩

theorem pushes_eq (cur : Source) (items : List Item) :
    match pushes cur items with
    | .ok ss => ss = (items.filterMap Item.target).map (child cur) ∧
        ∀ t ∈ items.filterMap Item.target, t ∉ cur.chain
    | .error e => e ≠ .fuel := by
  fun_induction pushes cur items with
  | case1 | case2 | case6 | case7 | case11 => simp
  -- an error further on
  | case3 _ _ _ _ e he ih | case8 _ _ _ _ _ e he ih => rw [he] at ih; exact ih
  -- an existing target that is not on the chain
  | case4 t _ rest hn ss he ih | case9 _ t _ rest hn ss he ih =>
    rw [he] at ih
    simp only [List.filterMap_cons, Item.target, List.map_cons, List.mem_cons, forall_eq_or_imp]
    exact ⟨by rw [ih.1]; rfl, hn, ih.2⟩
  -- an optional item whose file is missing
  | case5 _ ih | case10 _ _ ih => simpa only [List.filterMap_cons, Item.target] using ih
  | case12 head rest h1 h2 h3 h4 ih =>
    -- neither an `import` nor a `mod`
    have : head.target = none := by
      cases head with
      | «import» t o => cases t with | some t => exact (h1 t o rfl).elim | none => exact (h2 o rfl).elim
      | module n t o => cases t with | some t => exact (h3 n t o rfl).elim | none => exact (h4 n o rfl).elim
      | _ => rfl
    simpa only [List.filterMap_cons_none this] using ih

theorem child_good {cur : Source} (hc : GoodSource cur) {t : Nat} (ht : t ∉ cur.chain) :
    GoodSource (child cur t) where
  nodup := List.nodup_append.mpr ⟨hc.nodup, List.pairwise_singleton _ t, fun a ha b hb hab =>
    ht (List.mem_singleton.mp hb ▸ hab ▸ ha)⟩
  last := List.getLast?_concat ..
  len := by simp only [child, List.length_append, List.length_singleton, hc.len]

theorem pushes_good {cur : Source} (hc : GoodSource cur) {items : List Item} {ss : List Source}
    (h : pushes cur items = .ok ss) : ∀ s ∈ ss, GoodSource s := by
  have := pushes_eq cur items
  rw [h] at this
  rw [this.1, List.forall_mem_map]
  exact fun t ht => child_good hc (this.2 t ht)

end Just.Imports
