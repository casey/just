/-
Lemmas about the `--unsorted` key `(import_offsets, name.offset)` of `Just.Listing`.
-/
import Just.Model.Listing
import Just.Lemmas.Insert
namespace Just.Listing

theorem sliceCmp_append_left (l a b : List Nat) : sliceCmp (l ++ a) (l ++ b) = sliceCmp a b := by
  induction l <;> simp_all [sliceCmp]

theorem sliceCmp_refl (l : List Nat) : sliceCmp l l = .eq := by
  have := sliceCmp_append_left l [] []
  rwa [List.append_nil] at this

theorem sliceCmp_nil_cons (b : Nat) (bs : List Nat) : sliceCmp [] (b :: bs) = .lt := rfl

theorem sliceCmp_lt_iff (a b : List Nat) : sliceCmp a b = .lt ↔ a < b := by
  fun_induction sliceCmp a b <;> simp_all [List.cons_lt_cons_iff]
  · exact fun e => absurd e (by omega)
  · simp [Nat.le_antisymm ‹_ ≤ _› ‹_ ≤ _›]

theorem sliceCmp_eq_iff (a b : List Nat) : sliceCmp a b = .eq ↔ a = b := by
  fun_induction sliceCmp a b <;> simp_all <;> omega

theorem placedLt_iff (a b : Placed) : placedLt a b = true ↔
    a.imports < b.imports ∨ (a.imports = b.imports ∧ a.offset < b.offset) := by
  unfold placedLt
  cases h : sliceCmp a.imports b.imports with
  | lt => simp [(sliceCmp_lt_iff _ _).mp h]
  | eq => simp [(sliceCmp_eq_iff _ _).mp h, List.lt_irrefl]
  | gt =>
    have hlt : ¬ a.imports < b.imports := fun hl => by
      rw [(sliceCmp_lt_iff _ _).mpr hl] at h; cases h
    have hne : a.imports ≠ b.imports := fun e => by
      rw [(sliceCmp_eq_iff _ _).mpr e] at h; cases h
    simp [hlt, hne]

theorem placedLt_trans (a b c : Placed) (h1 : placedLt a b = true) (h2 : placedLt b c = true) : placedLt a c = true := by
  rw [placedLt_iff] at h1 h2 ⊢
  rcases h1 with h1 | ⟨e1, h1⟩ <;> rcases h2 with h2 | ⟨e2, h2⟩
  · exact .inl (List.lt_trans h1 h2)
  · exact .inl (e2 ▸ h1)
  · exact .inl (e1 ▸ h2)
  · exact .inr ⟨e1.trans e2, Nat.lt_trans h1 h2⟩

theorem placedLt_asymm (a b : Placed) (h : placedLt a b = true) : placedLt b a = false := by
  rw [← Bool.not_eq_true, placedLt_iff]
  rw [placedLt_iff] at h
  rintro (h2 | ⟨e2, h2⟩) <;> rcases h with h | ⟨e, h⟩
  · exact List.lt_asymm h h2
  · exact List.lt_irrefl _ (e ▸ h2)
  · exact List.lt_irrefl _ (e2 ▸ h)
  · omega

def InKeyOrder (l : List Placed) : Prop := l.Pairwise (fun a b => placedLt b a = false)

theorem insertPlaced_by : InsertsBy (fun a b => placedLt a b = true) insertPlaced :=
  ⟨fun _ => rfl, fun _ _ _ => rfl⟩

theorem insertBy_by : InsertsBy (fun a b : Recipe => a.offset ≤ b.offset) insertBy :=
  ⟨fun _ => rfl, fun _ _ _ => rfl⟩

end Just.Listing
