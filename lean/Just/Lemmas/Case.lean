/-
Lemmas about the case-conversion model `Just.Case`: what the words are made of, what their
concatenation is, and that a text already in the style is cut back into its own words.
-/
import Just.Model.Case
namespace Just.Case

theorem lower_iff (c : Nat) : isLower c = true ↔ 97 ≤ c ∧ c ≤ 122 := by simp [isLower]
theorem upper_iff (c : Nat) : isUpper c = true ↔ 65 ≤ c ∧ c ≤ 90 := by simp [isUpper]
theorem digit_iff (c : Nat) : isDigit c = true ↔ 48 ≤ c ∧ c ≤ 57 := by simp [isDigit]
theorem alnum_iff (c : Nat) : isAlnum c = true ↔ isLower c = true ∨ isUpper c = true ∨ isDigit c = true := by
  simp [isAlnum, or_assoc]

theorem scan_flatten (w : List Nat) (m : Mode) (cur : List Nat) (h : w ≠ []) :
    (scan m cur w).flatten = cur.reverse ++ w := by
  fun_induction scan m cur w <;> simp_all

theorem scan_nil (m : Mode) (cur : List Nat) : scan m cur [] = [] := by simp [scan]

theorem scan_flatten' (w : List Nat) : (scan .boundary [] w).flatten = w := by
  cases w with
  | nil => simp [scan]
  | cons c r => simpa using scan_flatten (c :: r) .boundary [] (by simp)

theorem pieces_flatten (s cur : List Nat) : (pieces cur s).flatten = cur.reverse ++ s.filter isAlnum := by
  fun_induction pieces cur s <;> simp_all

theorem words_flatten (s : List Nat) : (words s).flatten = s.filter isAlnum := by
  unfold words
  rw [List.flatMap_def, List.flatten_flatten, List.map_map]
  have : List.flatten ∘ scan Mode.boundary [] = id := funext scan_flatten'
  rw [this, List.map_id]; simpa using pieces_flatten s []

theorem scan_nonempty (w : List Nat) (m : Mode) (cur : List Nat) (hm : m = .upper → cur ≠ []) :
    ∀ x ∈ scan m cur w, x ≠ [] := by
  fun_induction scan m cur w
  case case1 => nofun
  case case2 => simp
  case case3 ih => simpa using ih nofun
  case case4 h ih =>
    -- the word that ends before an upper-case letter followed by a lower-case one holds the letters before it
    simp only [Bool.and_eq_true, decide_eq_true_eq] at h
    simpa [hm h.1.1] using ih nofun
  case case5 ih => exact ih fun _ => List.cons_ne_nil _ _

theorem words_alnum (s : List Nat) : ∀ w ∈ words s, w ≠ [] ∧ ∀ c ∈ w, isAlnum c = true := by
  intro w hw
  constructor
  · unfold words at hw
    obtain ⟨p, _, hp⟩ := List.mem_flatMap.mp hw
    exact scan_nonempty p .boundary [] (by simp) w hp
  · intro c hc
    exact (List.mem_filter.mp (words_flatten s ▸ List.mem_flatten.mpr ⟨w, hw, hc⟩)).2

theorem joinWith_cons (sep w : List Nat) (ws : List (List Nat)) :
    joinWith sep (w :: ws) = w ++ (ws.map (sep ++ ·)).flatten := by
  induction ws generalizing w with
  | nil => simp [joinWith]
  | cons v vs ih =>
    show w ++ sep ++ joinWith sep (v :: vs) = _
    rw [ih, List.map_cons, List.flatten_cons, List.append_assoc, List.append_assoc]

theorem map_joinWith (f : Nat → Nat) (sep : List Nat) (ws : List (List Nat)) :
    (joinWith sep ws).map f = joinWith (sep.map f) (ws.map (List.map f)) := by
  cases ws with
  | nil => rfl
  | cons w ws =>
    simp only [List.map_cons, joinWith_cons, List.map_append, List.map_flatten, List.map_map, Function.comp_def]

theorem mem_joinWith (sep : List Nat) (ws : List (List Nat)) (c : Nat) (h : c ∈ joinWith sep ws) :
    c ∈ sep ∨ ∃ w ∈ ws, c ∈ w := by
  cases ws with
  | nil => cases h
  | cons w ws =>
    simp only [joinWith_cons, List.mem_append, List.mem_flatten, List.mem_map] at h
    rcases h with h | ⟨_, ⟨v, hv, rfl⟩, h⟩
    · exact .inr ⟨w, .head _, h⟩
    · exact (List.mem_append.mp h).imp_right fun h => ⟨v, .tail _ hv, h⟩

theorem filter_joinWith (sep : List Nat) (hs : ∀ c ∈ sep, isAlnum c = false) (ws : List (List Nat))
    (h : ∀ w ∈ ws, ∀ c ∈ w, isAlnum c = true) : (joinWith sep ws).filter isAlnum = ws.flatten := by
  have hsep : sep.filter isAlnum = [] := List.filter_eq_nil_iff.mpr fun c hc => by simp [hs c hc]
  cases ws with
  | nil => rfl
  | cons w ws =>
    rw [joinWith_cons, List.filter_append, List.filter_flatten, List.map_map, List.flatten_cons,
      List.filter_eq_self.mpr (h w (.head _))]
    congr 2
    exact (List.map_congr_left fun v hv => by
      simp only [Function.comp, List.filter_append, hsep, List.nil_append, List.filter_eq_self.mpr (h v (.tail _ hv))]).trans
      (List.map_id' ws)

theorem scan_no_upper : ∀ (w : List Nat) (m : Mode) (cur : List Nat), w ≠ [] → (∀ c ∈ w, isUpper c = false) →
    scan m cur w = [cur.reverse ++ w] := by
  intro w m cur h hu
  fun_induction scan m cur w <;> simp_all

theorem pieces_eq : ∀ (s cur : List Nat), pieces cur s = s.splitOnPPrepend (fun c => !isAlnum c) cur
  | [], _ => rfl
  | c :: s, cur => by
    rw [pieces, List.splitOnPPrepend, pieces_eq s, pieces_eq s]; cases isAlnum c <;> rfl

theorem pieces_joinWith (sep : Nat) (hsep : isAlnum sep = false) : ∀ (w : List Nat) (ws : List (List Nat)),
    (∀ x ∈ w :: ws, ∀ c ∈ x, isAlnum c = true) → pieces [] (joinWith [sep] (w :: ws)) = w :: ws
  | w, [], h => by
    rw [pieces_eq]; exact List.splitOnP_eq_singleton fun c hc => by rw [h w (.head _) c hc]; rfl
  | w, w2 :: ws, h => by
    have ih := pieces_joinWith sep hsep w2 ws fun x hx => h x (.tail _ hx)
    rw [pieces_eq, List.splitOnPPrepend_nil_right] at ih ⊢
    rw [show joinWith [sep] (w :: w2 :: ws) = w ++ sep :: joinWith [sep] (w2 :: ws) by simp [joinWith],
      List.splitOnP_append_cons_of_forall_mem (fun c hc => by rw [h w (.head _) c hc]; rfl) sep (by rw [hsep]; rfl)]
    exact congrArg _ ih

theorem words_joinWith (sep : Nat) (hsep : isAlnum sep = false) (ws : List (List Nat))
    (h : ∀ w ∈ ws, w ≠ [] ∧ ∀ c ∈ w, isAlnum c = true ∧ isUpper c = false) :
    words (joinWith [sep] ws) = ws := by
  cases ws with
  | nil => simp [joinWith, words, pieces, scan]
  | cons w ws =>
    unfold words
    rw [pieces_joinWith sep hsep w ws (fun x hx c hc => ((h x hx).2 c hc).1)]
    have hs : ∀ a ∈ w :: ws, scan .boundary [] a = [a] := fun a ha => by
      simpa using scan_no_upper a .boundary [] (h a ha).1 fun c hc => ((h a ha).2 c hc).2
    rw [List.flatMap_def, List.map_congr_left hs]
    exact List.flatMap_singleton' _

theorem upper_shift {c : Nat} (h : isUpper c = true) :
    isLower (c + 32) = true ∧ isLower c = false ∧ isUpper (c + 32) = false := by
  simp only [isUpper, isLower, Bool.and_eq_true, decide_eq_true_eq, Bool.and_eq_false_iff, decide_eq_false_iff_not] at h ⊢
  omega

theorem lower_shift {c : Nat} (h : isLower c = true) : isUpper (c - 32) = true ∧ isUpper c = false ∧ c - 32 + 32 = c := by
  simp only [isUpper, isLower, Bool.and_eq_true, decide_eq_true_eq, Bool.and_eq_false_iff, decide_eq_false_iff_not] at h ⊢
  omega

theorem toLower_not_upper (c : Nat) (h : isAlnum c = true) : isAlnum (toLower c) = true ∧ isUpper (toLower c) = false := by
  by_cases hu : isUpper c = true
  · have ⟨h1, _, h3⟩ := upper_shift hu
    rw [toLower, if_pos hu, isAlnum, h1]; exact ⟨rfl, h3⟩
  · rw [toLower, if_neg hu]; exact ⟨h, (Bool.not_eq_true _).mp hu⟩

theorem toLower_id (c : Nat) (h : isUpper c = false) : toLower c = c := by simp [toLower, h]

theorem lowerWord_id (w : List Nat) (h : ∀ c ∈ w, isUpper c = false) : lowerWord w = w :=
  (List.map_congr_left fun c hc => toLower_id c (h c hc)).trans (List.map_id' w)

theorem lowered_words (s : List Nat) : ∀ w ∈ (words s).map lowerWord,
    w ≠ [] ∧ ∀ c ∈ w, isAlnum c = true ∧ isUpper c = false := by
  intro w hw
  obtain ⟨v, hv, rfl⟩ := List.mem_map.mp hw
  have := words_alnum s v hv
  constructor
  · simpa [lowerWord] using this.1
  · intro c hc
    obtain ⟨d, hd, rfl⟩ := List.mem_map.mp hc
    exact toLower_not_upper d (this.2 d hd)

theorem lower_style_idempotent (sep : Nat) (hsep : isAlnum sep = false) (s : List Nat) :
    joinWith [sep] ((words (joinWith [sep] ((words s).map lowerWord))).map lowerWord)
      = joinWith [sep] ((words s).map lowerWord) := by
  rw [words_joinWith sep hsep _ (lowered_words s)]
  rw [(List.map_congr_left fun w hw => lowerWord_id w fun c hc => ((lowered_words s w hw).2 c hc).2).trans (List.map_id' _)]

theorem joinWith_nil (ws : List (List Nat)) : joinWith [] ws = ws.flatten := by
  cases ws with
  | nil => rfl
  | cons w ws => simp only [joinWith_cons, List.nil_append, List.map_id', List.flatten_cons]

theorem toUpper_toLower (c : Nat) : toUpper (toLower c) = toUpper c := by
  by_cases hu : isUpper c = true
  · have ⟨h1, h2, _⟩ := upper_shift hu
    rw [toLower, if_pos hu, toUpper, toUpper, if_pos h1, h2, if_neg Bool.false_ne_true, Nat.add_sub_cancel]
  · rw [toLower, if_neg hu]

theorem toLower_toUpper (c : Nat) : toLower (toUpper c) = toLower c := by
  by_cases hl : isLower c = true
  · have ⟨h1, h2, h3⟩ := lower_shift hl
    rw [toUpper, if_pos hl, toLower, toLower, if_pos h1, h2, if_neg Bool.false_ne_true, h3]
  · rw [toUpper, if_neg hl]

theorem toLower_toLower (c : Nat) : toLower (toLower c) = toLower c := by
  by_cases hu : isUpper c = true
  · rw [show toLower c = c + 32 from if_pos hu, toLower, (upper_shift hu).2.2, if_neg Bool.false_ne_true]
  · rw [show toLower c = c from if_neg hu, show toLower c = c from if_neg hu]

theorem capWord_lower (w : List Nat) : (capWord w).map toLower = w.map toLower := by
  cases w with
  | nil => rfl
  | cons c cs => simp [capWord, toLower_toUpper, toLower_toLower]

end Just.Case
