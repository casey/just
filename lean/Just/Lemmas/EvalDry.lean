/-
Under `--dry-run` the evaluator starts no process for a backtick, at whatever position of whatever
expression the backtick stands (src/evaluator.rs `Expression::Backtick`: `if dry_run { the text }`).
`shell()` is outside this statement: it is a function call and does run (recorded observation).
-/
import Just.Lemmas.EvalBind
namespace Just.Eval

/-- the processes started so far: the backtick / `shell()` events of the log -/
def started (log : List Ev) : List String :=
  log.filterMap (fun ev => match ev with | .bt c => some c | _ => none)

@[simp] theorem started_append (a b : List Ev) : started (a ++ b) = started a ++ started b := by
  simp [started, List.filterMap_append]
@[simp] theorem started_ev (n : String) : started [Ev.evalAssign n] = [] := rfl
@[simp] theorem started_bt (c : String) : started [Ev.bt c] = [c] := rfl

mutual
def noShell : Expr → Bool
  | .str _ => true
  | .var _ => true
  | .backtick _ => true
  | .call fn args => fn != "shell" && noShellL args
  | .concat l r => noShell l && noShell r
  | .joinL l r => noShell l && noShell r
  | .joinR r => noShell r
  | .and l r => noShell l && noShell r
  | .or l r => noShell l && noShell r
  | .cond a _ b t e => noShell a && noShell b && noShell t && noShell e
  | .assert a _ b m => noShell a && noShell b && noShell m
  | .group e => noShell e
def noShellL : Exprs → Bool
  | .nil => true
  | .cons e es => noShell e && noShellL es
end

def tableNoShell : Option (List (String × Expr)) → Prop
  | none => True
  | some as => ∀ p ∈ as, noShell p.2 = true

theorem pending_noShell {assigns : Option (List (String × Expr))} (ht : tableNoShell assigns) {x : String} {e : Expr}
    (h : pendingOf assigns x = some e) : noShell e = true := by
  cases assigns with
  | none => cases h
  | some as =>
    obtain ⟨l₁, l₂, rfl, _⟩ := List.lookup_eq_some_iff.mp h
    exact ht (x, e) (List.mem_append_right _ (.head _))

theorem operands_noShell {e : Expr} (h : noShell e = true) : ∀ s ∈ operands e, noShell s = true := by
  cases e <;> simp only [noShell, Bool.and_eq_true, and_assoc] at h <;>
    simp only [operands, List.forall_mem_cons, List.not_mem_nil, false_imp_iff, implies_true, and_true] <;> exact h

def DryAt (ctx : Ctx) (assigns : Option (List (String × Expr))) (fuel : Nat) : Prop :=
  (∀ e st, noShell e = true → started (evalExpr ctx assigns fuel e st).1.log = started st.log) ∧
  (∀ es st, noShellL es = true → started (evalExprs ctx assigns fuel es st).1.log = started st.log) ∧
  (∀ n e st, noShell e = true → started (evalAssignment ctx assigns fuel n e st).1.log = started st.log)

theorem started_bind {α β : Type} {st : St} {r : Res α} {k : St → α → Res β} (h1 : started r.1.log = started st.log)
    (h2 : ∀ st1 a, started (k st1 a).1.log = started st1.log) : started (r.bind k).1.log = started st.log :=
  Res.bind_state (P := fun s => started s.log = started st.log) h1 fun st1 a h => (h2 st1 a).trans h

theorem dryAt (ctx : Ctx) (hd : ctx.dryRun = true) (assigns : Option (List (String × Expr)))
    (ht : tableNoShell assigns) (fuel : Nat) : DryAt ctx assigns fuel := by
  induction fuel with
  | zero => exact ⟨fun _ _ _ => by rw [evalExpr_zero], fun _ _ _ => by rw [evalExprs_zero],
      fun _ _ _ _ => by rw [evalAssignment_zero]⟩
  | succ fuel ih =>
    obtain ⟨ihE, ihL, ihA⟩ := ih
    refine ⟨fun e st hn => ?_, fun es st hn => ?_, fun n e st hn => ?_⟩
    · cases e with
      | str s => rw [evalExpr_str]
      | var x =>
        rw [evalExpr_var]
        rcases varCase_cases ctx x st (pendingOf assigns x) _ with ⟨r, h⟩ | ⟨e', hp, _, h⟩ <;> rw [h]
        exact ihA x e' st (pending_noShell ht hp)
      | backtick c =>
        rcases evalExpr_backtick_state ctx assigns fuel st c with h | ⟨hf, _⟩
        · rw [h]
        · rw [hd] at hf; cases hf
      | call fn args =>
        simp only [noShell, Bool.and_eq_true, bne_iff_ne, ne_eq] at hn
        rw [evalExpr_call]
        refine started_bind (ihL args st hn.2) fun st1 vs => ?_
        rcases applyFn_state ctx fn st1 vs with h | ⟨hs, _⟩
        · rw [h]
        · exact absurd hs hn.1
      | _ =>
        rw [evalExpr_operator]
        exact Sequential.operate (Φ := fun st r _ => started r.1.log = started st.log) ⟨fun _ _ => rfl, started_bind⟩
          (evalExpr ctx assigns fuel) (fun s hs st => ihE s st (operands_noShell hn s hs)) st
    · cases es with
      | nil => rw [evalExprs_nil]
      | cons e es =>
        simp only [noShellL, Bool.and_eq_true] at hn
        rw [evalExprs_cons]
        exact started_bind (ihE e st hn.1) fun st1 _ => started_bind (ihL es st1 hn.2) fun _ _ => rfl
    · cases h : lookupScope st n with
      | some v => rw [evalAssignment_of_bound _ _ _ _ _ _ _ h]
      | none =>
        rw [evalAssignment_of_unbound _ _ _ _ _ _ h]
        exact started_bind ((ihE e _ hn).trans (by simp)) fun _ _ => rfl

end Just.Eval
