import Just.Lemmas.LexerLift
/-
Towards termination of the lexer's main loop: no lexing function ever gives text back (`fuelSpec`, which
`fuelSound` shows every function obeys), and a function that begins by consuming a character and goes on with
something that gives nothing back has consumed at least one (post-condition `Ate`, or `AteFrom c` where that
holds only from a state whose next character is `c`; the step is `Spec.Begins.ate`), up to a round of the main
loop that goes on (`stepMain_ate`): the loop ends before its fuel does, whatever invariant its rounds keep
(`mainLoop_rule`). The structures `Shrinks` and `Eats` serve only to state the lemmas `Shrinks.*` and `Eats.*`.
-/
namespace Just.Lexer

def ErrKind.isFuel : ErrKind → Bool
  | .fuel => true
  | _ => false

theorem ErrKind.not_fuel {k : ErrKind} (h : k.isDiagnostic = true) : k.isFuel = false := by
  cases k <;> first | rfl | cases h

def Shrunk {α : Type} (s : St) : Except Err (α × St) → Prop
  | .ok (_, s') => s'.rest.length ≤ s.rest.length
  | .error e => e.kind.isFuel = false

/-- `Shrinks m`: `m` leaves no more text than it finds and never fails for lack of fuel; statement form of the lemmas
`Shrinks.*` below, which are instances of `fuelSound`. -/
structure Shrinks {α : Type} (m : M α) : Prop where
  run : ∀ s, Shrunk s (m s)

def fuelSpec : Spec :=
  ⟨fun _ => True, fun s s' => s'.rest.length ≤ s.rest.length, fun e => e.kind.isFuel = false, fun _ => Nat.le_refl _,
   fun h1 h2 => Nat.le_trans h2 h1⟩

theorem shrunk_iff {α : Type} {s : St} {r : Except Err (α × St)} :
    Shrunk s r ↔ Meets (fun _ s' => s'.rest.length ≤ s.rest.length) (fun e => e.kind.isFuel = false) r := by
  rcases r with e | ⟨a, s'⟩ <;> exact Iff.rfl

theorem shrinks_iff {α : Type} {m : M α} : Shrinks m ↔ Obeys fuelSpec m :=
  ⟨fun h s _ => (shrunk_iff.1 (h.run s)).imp (fun _ _ h => ⟨trivial, h⟩) fun _ h => h,
   fun h => ⟨fun s => shrunk_iff.2 ((h s trivial).imp (fun _ _ h => h.2) fun _ h => h)⟩⟩

theorem Obeys.kept {α : Type} {P : St → Prop} {m : M α} (h : Obeys fuelSpec m) :
    Triple P m (fun s _ s' => s'.rest.length ≤ s.rest.length) AnyErr :=
  h.conseq (fun _ _ => trivial) (fun _ _ _ _ h => h.2) fun _ _ _ _ => trivial

theorem Fed.ate {c : Char} {l : List Char} {s s' : St} (h : Fed (c :: l) s s') : s'.rest.length < s.rest.length := by
  rw [h.length, List.length_cons]; omega

theorem fuelSound : fuelSpec.SoundAll where
  advance := advance_any.conseq (fun _ h => h) (fun _ _ _ _ ⟨_, h⟩ => ⟨trivial, Nat.le_of_lt h.ate⟩) fun _ _ _ h => h.2 ▸ rfl
  token _ := fun _ _ => ⟨trivial, Nat.le_refl _⟩
  setFrame f _ := setFrameAny f
  error k s _ hk := by
    rcases mkError_cases k s with ⟨_, _, _, h⟩ | ⟨_, _, h⟩ <;> rw [h]
    · exact ErrKind.not_fuel hk
    · rfl
  internal _ _ _ _ := rfl
  unterminated _ _ _ _ := rfl
  setFrameAny := setFrameAny
  internalAny _ _ _ := rfl
where
  setFrameAny (f : St → Frame) : Obeys fuelSpec (setFrame f) :=
    (setFrame_any f).conseq (fun _ h => h) (fun _ _ _ _ h => ⟨trivial, h ▸ Nat.le_refl _⟩) fun _ _ _ h => h.2 ▸ rfl

theorem Shrinks.advance : Shrinks advance := shrinks_iff.2 fuelSound.advance
theorem Shrinks.presume (c : Char) : Shrinks (presume c) := shrinks_iff.2 (fuelSound.presume c)
theorem Shrinks.accepted (c : Char) : Shrinks (accepted c) := shrinks_iff.2 (fuelSound.accepted c)
theorem Shrinks.advanceWhile (p : Char → Bool) : Shrinks (advanceWhile p) := shrinks_iff.2 (fuelSound.advanceWhile p)
theorem Shrinks.lexIdentifier : Shrinks lexIdentifier := shrinks_iff.2 fuelSound.lexIdentifier
theorem Shrinks.dispatch (c : Char) : Shrinks (Lexer.dispatch c) := shrinks_iff.2 (fuelSound.dispatch c)

/-- `Eats m`: a run of `m` that succeeds has consumed at least one character; statement form of the lemmas `Eats.*` at
the end of the file, which are instances of the `_ate` triples. -/
structure Eats {α : Type} (m : M α) : Prop where
  run : ∀ s a s', m s = .ok (a, s') → s'.rest.length < s.rest.length

variable {α β : Type} {P : St → Prop}

abbrev Ate : St → α → St → Prop := fun s _ s' => s'.rest.length < s.rest.length

abbrev AteFrom (c : Char) : St → α → St → Prop := fun s _ s' => s.rest.head? = some c → s'.rest.length < s.rest.length

theorem eats_iff {m : M α} : Eats m ↔ Triple AnyState m Ate AnyErr :=
  ⟨fun h => triple_iff.2 ⟨fun s a s' _ he => h.run s a s' he, fun _ _ _ _ => trivial⟩,
   fun h => ⟨fun _ _ _ he => h.ok trivial he⟩⟩

theorem Triple.ateThen {x : M α} {f : α → M β} (hx : Triple P x Ate AnyErr) (hf : ∀ a, Obeys fuelSpec (f a)) :
    Triple P (x >>= f) Ate AnyErr :=
  .bind hx fun _ a _ => (hf a).kept.post (fun _ _ _ h h' => Nat.lt_of_le_of_lt h' h)

theorem Triple.thenAte {x : M α} {f : α → M β} (hx : Obeys fuelSpec x) (hf : ∀ a, Triple AnyState (f a) Ate AnyErr) :
    Triple P (x >>= f) Ate AnyErr :=
  .bind hx.kept fun _ a _ =>
    (hf a).conseq (fun _ _ => trivial) (fun _ _ _ h h' => Nat.lt_of_lt_of_le h' h) fun _ _ _ h => h

theorem advance_ate : Triple P advance Ate AnyErr :=
  advance_any.conseq (fun _ h => h) (fun _ _ _ _ ⟨_, h⟩ => h.ate) fun _ _ _ _ => trivial

theorem presume_ate (c : Char) : Triple P (presume c) Ate AnyErr := by
  unfold presume
  exact .getBind fun s _ => .ite (fun _ => advance_ate) fun _ => .fails

theorem lexSingle_ate (k : Kind) : Triple P (lexSingle k) Ate AnyErr :=
  .ateThen advance_ate fun _ => fuelSound.token _

theorem lexDouble_ate (k : Kind) : Triple P (lexDouble k) Ate AnyErr :=
  .ateThen advance_ate fun _ => fuelSound.lexSingle _

theorem Spec.Begins.ate {x : M Unit} {m : M α} (hm : fuelSpec.Begins x m) (hx : Triple P x Ate AnyErr) : Triple P m Ate AnyErr := by
  obtain ⟨f, rfl, hf⟩ := hm
  exact .ateThen hx hf

/-- either `\r` is accepted, which consumes, or `\n` is presumed in the same state -/
theorem lexEolHead_ate : Triple P lexEolHead Ate AnyErr := by
  unfold lexEolHead
  refine .seq (accepted_spec '\r').total (fun _ _ => trivial) fun s b _ => .ite (fun hb => ?_) fun hb => ?_
  · exact fuelSound.lexEolTail.kept.post (fun _ _ _ h h' => Nat.lt_of_le_of_lt h' (h.1 hb).ate)
  · exact (presume_ate '\n').post (fun _ _ _ h h' => (h.2 (by simpa using hb)).1 ▸ h')

theorem lexString_ate : Triple P lexString Ate AnyErr := by
  unfold lexString
  refine .getBind fun s _ => ?_
  split
  · exact .thenNever fun _ => .fails
  · rename_i hd
    obtain ⟨c, r, rfl⟩ := isDelimiterStart_cons hd
    exact .ateThen (.ateThen (presume_ate c) fun _ => fuelSound.presumeStr r) fun _ => fuelSound.lexStringTail _ _ _

theorem bodyTerminator_ate {t : Terminator} (ht : t ≠ .endOfFile) : Triple P (bodyTerminator t) Ate AnyErr := by
  unfold bodyTerminator
  cases t with
  | endOfFile => exact absurd rfl ht
  | newline => exact lexSingle_ate _
  | newlineCarriageReturn => exact lexDouble_ate _
  | interpolation => exact .ateThen (lexDouble_ate _) fun _ => fuelSound.pushInterpolation

/-- the body scan stops before a terminator, which is then consumed, or consumes all of a non-empty text -/
theorem lexBody_ate (c : Char) : Triple P lexBody (AteFrom c) AnyErr := by
  unfold lexBody
  refine .getBind fun s _ => .seq (bodyLoop_spec s.rest 0).total (fun _ h => h ▸ rfl) fun s0 t _ =>
    .seq fuelSound.flushText.kept (fun _ _ => trivial) fun s1 _ h1 => ?_
  obtain ⟨⟨l, hl⟩, hh⟩ := h1
  by_cases ht : t = .endOfFile
  · subst ht
    refine (fuelSound.bodyTerminator _).kept.post fun _ _ _ h2 h hs => ?_
    have : s1.rest.length < s0.rest.length := by
      cases l with
      | nil => simp [hl.rest.trans hh] at hs
      | cons => exact hl.ate
    omega
  · have := hl.length
    exact (bodyTerminator_ate ht).conseq (fun _ _ => trivial) (fun _ _ _ h2 h _ => by omega) fun _ _ _ h => h

theorem lexOther_ate (s0 : St) (c : Char) : Triple P (lexOther s0 c) Ate AnyErr :=
  lexOther_cases (P := fun m => Triple P m Ate AnyErr) s0 c .fails
    (fun cs o => (fuelSound.lexChoices' c cs o).ate (presume_ate _))
    (fun h => (h ▸ fuelSound.lexComment').ate (presume_ate _)) lexSingle_ate
    (fun k => (fuelSound.lexDigraph' c c k).ate (presume_ate _))
    (fun k hk => .thenAte (fuelSound.delimiterAction k hk) fun _ => lexSingle_ate k)
    (fun h => (h ▸ fuelSound.lexColon').ate (presume_ate _)) (fun h => (h ▸ fuelSound.lexEscape').ate (presume_ate _))
    (fun _ => fuelSound.lexEol'.ate lexEolHead_ate) (fun _ => lexString_ate)
    (fun _ => fuelSound.lexIdentifier'.ate advance_ate) (.thenNever fun _ => .fails)

theorem lexNormal_ate (c : Char) : Triple P (lexNormal c) (AteFrom c) AnyErr := by
  unfold lexNormal lexWhitespace
  refine .getBind fun s _ => .ite (fun hb => ?_) fun _ => (lexOther_ate s c).post fun _ _ _ _ h _ => h
  -- white space is skipped from a blank
  refine .bind (advanceWhile_spec isBlankChar).total fun s0 _ _ => fun s1 h1 hc => ?_
  obtain ⟨cs, hcs⟩ : ∃ cs, s0.rest = c :: cs := by cases hr : s0.rest <;> simp_all
  rw [hcs, List.takeWhile_cons_of_pos (by simpa [isBlankChar] using hb)] at h1
  exact hcs ▸ h1.ate

theorem lexInterpolation_ate (t : Tok) (c : Char) : Triple P (lexInterpolation t c) (AteFrom c) AnyErr := by
  unfold lexInterpolation
  refine .getBind fun s _ => .ite (fun _ => ?_) fun _ => .ite (fun _ => .throw fun _ => trivial) fun _ => lexNormal_ate c
  split
  · exact .thenNever fun _ => .thenNever fun _ => .fails
  · exact (Triple.thenAte (fuelSound.setFrame _ fun _ => rfl) fun _ => lexDouble_ate _).post fun _ _ _ _ h _ => h

theorem dispatch_ate (c : Char) : Triple P (dispatch c) (AteFrom c) AnyErr := by
  unfold dispatch
  refine .getBind fun s _ => ?_
  split
  · exact lexInterpolation_ate _ c
  · exact .ite (fun _ => lexBody_ate c) fun _ => lexNormal_ate c

theorem stepMain_ate : Triple P stepMain (fun s b s' => b = true → s'.rest.length < s.rest.length) AnyErr := by
  unfold stepMain
  refine .bind fuelSound.lineStartIfNeeded.kept fun s _ _ => .getBind fun s1 h1 => ?_
  split
  · exact .pure fun _ _ h => by cases h
  · rename_i first _ hr
    exact .bind (dispatch_ate first) fun s2 _ h2 => .pure fun s3 h3 _ =>
      Nat.lt_of_lt_of_le (h3 (by simp [h2, hr])) (h2 ▸ h1)

/-- The loop of `tokenize` under an invariant `I` of its rounds.  A round that goes on has consumed text, so fuel above
the length of the remaining text is never used up: the model's fuel error is not among the errors, and the round that
ends the loop establishes `R`. -/
theorem mainLoop_rule {I R : St → Prop} {F : Err → Prop}
    (step : Triple I stepMain (fun s b s' => I s' ∧ (b = true → s'.rest.length < s.rest.length) ∧ (b = false → R s')) fun _ => F)
    (n : Nat) : Triple (fun s => I s ∧ s.rest.length < n) (mainLoop n) (fun _ _ s' => I s' ∧ R s') fun _ => F := by
  induction n with
  | zero => exact fun s hs => absurd hs.2 (Nat.not_lt_zero _)
  | succ n ih =>
    unfold mainLoop
    exact .seq step (fun _ h => h.1) fun s b hs => .ite
      (fun hb => ih.pre fun _ h => ⟨h.1, by have := h.2.1 hb; have := hs.2; omega⟩)
      fun hb => .pure fun _ h => ⟨h.1, h.2.2 (by simpa using hb)⟩

theorem Eats.advance : Eats Lexer.advance := eats_iff.2 advance_ate
theorem Eats.presume (c : Char) : Eats (Lexer.presume c) := eats_iff.2 (presume_ate c)
theorem Eats.throw {α : Type} (e : Err) : Eats (MonadExcept.throw e : M α) := eats_iff.2 (.throw fun _ => trivial)
theorem Eats.lexIdentifier : Eats Lexer.lexIdentifier := eats_iff.2 (fuelSound.lexIdentifier'.ate advance_ate)

end Just.Lexer
