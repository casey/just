import Just.Lemmas.Ast
/-
Every fuel bound of the round-trip theorems is met by all sufficiently large amounts of fuel.
-/
namespace Just.Ast
open Just Just.Syntax Just.Header Just.Items

/-- `P` holds for every sufficiently large amount -/
def Ev (P : Nat → Prop) : Prop := ∃ F0, ∀ F, F0 ≤ F → P F

theorem Ev.and {P Q : Nat → Prop} (hp : Ev P) (hq : Ev Q) : Ev (fun F => P F ∧ Q F) := by
  obtain ⟨a, ha⟩ := hp
  obtain ⟨b, hb⟩ := hq
  exact ⟨a + b, fun F hF => ⟨ha F (by omega), hb F (by omega)⟩⟩

theorem Ev.le (n : Nat) : Ev (fun F => n ≤ F) := ⟨n, fun _ h => h⟩
theorem Ev.lt (n : Nat) : Ev (fun F => n < F) := ⟨n + 1, fun _ h => by omega⟩
theorem Ev.true : Ev (fun _ => True) := ⟨0, fun _ _ => trivial⟩

theorem Ev.mono {P Q : Nat → Prop} (h : ∀ F, P F → Q F) (hp : Ev P) : Ev Q := by
  obtain ⟨a, ha⟩ := hp
  exact ⟨a, fun F hF => h F (ha F hF)⟩

theorem Ev.forall_mem {α : Type} {P : Nat → α → Prop} {l : List α} (h : ∀ a ∈ l, Ev (fun F => P F a)) : Ev (fun F => ∀ a ∈ l, P F a) := by
  induction l with
  | nil => exact ⟨0, fun _ _ _ ha => nomatch ha⟩
  | cons x xs ih =>
    exact ((h x (.head _)).and (ih fun a ha => h a (.tail _ ha))).mono fun F hF => List.forall_mem_cons.mpr hF

theorem Ev.forall_opt {α : Type} {P : Nat → α → Prop} {o : Option α} (h : ∀ a, o = some a → Ev (fun F => P F a)) :
    Ev (fun F => ∀ a, o = some a → P F a) := by
  cases o with
  | none => exact ⟨0, fun _ _ a ha => by cases ha⟩
  | some x => exact (h x rfl).mono (fun F hx a ha => by cases ha; exact hx)

theorem ev_depFuel (d : Dep) : Ev (fun F => DepFuel F F d) := by
  have h1 : Ev (fun F => ∀ e ∈ d.args, 4 * e.size + 3 ≤ F) := Ev.forall_mem (fun e _ => Ev.le _)
  exact (h1.and (Ev.lt d.args.length)).mono (fun F ⟨a, b⟩ => ⟨a, b⟩)

theorem ev_headerFuel (h : Header) : Ev (fun F => HeaderFuel F h) := by
  have h1 := Ev.lt h.params.length
  have h2 : Ev (fun F => ∀ p ∈ h.params, ∀ d, p.default = some d → 4 * d.size ≤ F) :=
    Ev.forall_mem (fun p _ => Ev.forall_opt (fun d _ => Ev.le _))
  have h3 : Ev (fun F => ∀ v, h.variadic = some v → ∀ d, v.default = some d → 4 * d.size ≤ F) :=
    Ev.forall_opt (fun v _ => Ev.forall_opt (fun d _ => Ev.le _))
  have h4 := Ev.lt h.priors.length
  have h5 : Ev (fun F => ∀ d ∈ h.priors, DepFuel F F d) := Ev.forall_mem (fun d _ => ev_depFuel d)
  have h6 := Ev.lt h.subsequents.length
  have h7 : Ev (fun F => ∀ d ∈ h.subsequents, DepFuel F F d) := Ev.forall_mem (fun d _ => ev_depFuel d)
  exact (h1.and <| h2.and <| h3.and <| h4.and <| h5.and <| h6.and h7).mono fun F ⟨a, b, c, d, e, f, g⟩ => ⟨a, b, c, d, e, f, g⟩

theorem ev_bodyFuel (ls : List BLine) : Ev (fun F => BodyFuel F ls) := by
  have h1 : Ev (fun F => ∀ l ∈ ls, ∀ f ∈ l, fragFuel F f) :=
    Ev.forall_mem (fun l _ => Ev.forall_mem (fun f _ => by
      cases f with
      | text s => exact Ev.true
      | interp e => exact Ev.le _))
  have h2 : Ev (fun F => ∀ l ∈ ls, l.length < F) := Ev.forall_mem (fun l _ => Ev.lt _)
  exact (h1.and <| h2.and (Ev.lt ls.length)).mono fun F ⟨a, b, c⟩ => ⟨a, b, c⟩

theorem ev_itemFuel (it : Item) : Ev (fun F => ItemFuel F it) := by
  cases it with
  | alias p a => exact Ev.lt _
  | assignment p a => exact Ev.le _
  | comment | «import» | module | unexport => exact Ev.true
  | «set» s => exact ⟨(match s.value with | .interp _ as => as.length + 1 | _ => 0), fun F hF c as h => by rw [h] at hF; exact hF⟩
  | recipe doc attrs r =>
    have h1 : Ev (fun F => ∀ a ∈ attrs, a.args.length ≤ F) := Ev.forall_mem (fun a _ => Ev.le _)
    have h2 := Ev.lt attrs.length
    have h3 : Ev (fun F => RecipeFuel F r) := ((ev_headerFuel r.header).and (ev_bodyFuel r.body)).mono (fun F ⟨a, b⟩ => ⟨a, b⟩)
    have h4 := Ev.lt (r.body.length + 1)
    exact (h1.and <| h2.and <| h3.and h4).mono fun F ⟨a, b, c, d⟩ => ⟨a, b, c, d⟩

theorem ev_fileFuel (items : List Item) : Ev (fun F => (∀ it ∈ items, ItemFuel (F + 2) it) ∧ 3 * items.length ≤ F) := by
  have h1 : Ev (fun F => ∀ it ∈ items, ItemFuel F it) := Ev.forall_mem (fun it _ => ev_itemFuel it)
  obtain ⟨a, ha⟩ := h1
  exact ⟨a + 3 * items.length, fun F hF => ⟨ha (F + 2) (by omega), by omega⟩⟩

end Just.Ast
