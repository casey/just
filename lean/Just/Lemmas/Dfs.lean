/-
Soundness of the cycle-stack DFS: whatever it accepts is a topological order of known nodes.
Both walks over the search go by the induction principle of its two functions, which has a case for every way one call
can end and hands over the outcomes of the inner calls as equations.
-/
import Just.Model.Dfs
namespace Just.Dfs

/-- every node of the list is a graph node whose non-skipped successors all appear LATER in the
list, i.e. were completed before it -/
def Sorted (g : Graph) : List String → Prop
  | [] => True
  | n :: rest => (∃ ss, g.succ n = some ss ∧ ∀ s ∈ ss, g.skip s = true ∨ s ∈ rest) ∧ Sorted g rest

structure Inv (g : Graph) (stack done : List String) : Prop where
  sorted : Sorted g done
  nodup : done.Nodup
  disj : ∀ x ∈ stack, x ∉ done

structure Post (g : Graph) (stack done done' : List String) : Prop where
  inv : Inv g stack done'
  ext : ∃ pre, done' = pre ++ done

theorem Post.refl {g : Graph} {stack done : List String} (h : Inv g stack done) : Post g stack done done := ⟨h, [], rfl⟩

theorem Post.trans {g : Graph} {stack a b c : List String} (h1 : Post g stack a b) (h2 : Post g stack b c) :
    Post g stack a c := by
  obtain ⟨p1, rfl⟩ := h1.ext
  obtain ⟨p2, rfl⟩ := h2.ext
  exact ⟨h2.inv, p2 ++ p1, (List.append_assoc ..).symm⟩

theorem Post.mem {g : Graph} {stack a b : List String} (h : Post g stack a b) {x : String} (hx : x ∈ a) : x ∈ b := by
  obtain ⟨p, rfl⟩ := h.ext
  exact List.mem_append_right _ hx

/-- what the two functions of the search accept: the completed nodes stay sorted and distinct, the old ones stay, and
the node asked for (every successor that is not skipped) is among them -/
theorem sound (g : Graph) :
    (∀ fuel n done stack, ∀ done', Inv g stack done → n ∉ stack → node g fuel n done stack = .ok done' →
      Post g stack done done' ∧ n ∈ done') ∧
    (∀ fuel n ss done stack, ∀ done', Inv g stack done → succs g fuel n ss done stack = .ok done' →
      Post g stack done done' ∧ ∀ s ∈ ss, g.skip s = true ∨ s ∈ done') := by
  apply node.mutual_induct g
  case case2 =>
    -- a completed node
    intro fuel n done stack hin done' hi _ h
    rw [node, if_pos hin] at h; cases h
    exact ⟨.refl hi, hin⟩
  case case5 =>
    -- a new node: its successors are resolved with the node in progress, then it is completed
    intro fuel n done stack hnin ss hs done1 he ih done' hi hns h
    rw [node, if_neg hnin, hs] at h; simp only [he] at h; cases h
    obtain ⟨hp, hall⟩ := ih done1 ⟨hi.sorted, hi.nodup, List.forall_mem_cons.mpr ⟨hnin, hi.disj⟩⟩ he
    have hd := List.forall_mem_cons.mp hp.inv.disj
    obtain ⟨pre, hpre⟩ := hp.ext
    exact ⟨⟨⟨⟨⟨ss, hs, hall⟩, hp.inv.sorted⟩, List.nodup_cons.mpr ⟨hd.1, hp.inv.nodup⟩, fun x hx hxin =>
      (List.mem_cons.mp hxin).elim (fun e => hns (e ▸ hx)) (hd.2 x hx)⟩, n :: pre, by rw [hpre]; rfl⟩, .head _⟩
  case case6 =>
    intro fuel n done stack done' hi h
    rw [succs] at h; cases h
    exact ⟨.refl hi, nofun⟩
  case case7 =>
    -- a successor that is completed or skipped
    intro fuel n s ss done stack hskip ih done' hi h
    rw [succs, if_pos hskip] at h
    obtain ⟨hp, hall⟩ := ih done' hi h
    refine ⟨hp, List.forall_mem_cons.mpr ⟨?_, hall⟩⟩
    exact (Bool.or_eq_true _ _ ▸ hskip).symm.imp_right fun hd => hp.mem (of_decide_eq_true hd)
  case case10 =>
    -- a successor resolved by a call of its own, then the remaining ones
    intro fuel n s ss done stack hskip hst hsome done1 he ih1 ih2 done' hi h
    rw [succs, if_neg hskip, if_neg hst, if_pos hsome] at h; simp only [he] at h
    obtain ⟨hp1, hin1⟩ := ih1 done1 hi hst he
    obtain ⟨hp2, hall⟩ := ih2 done' hp1.inv h
    exact ⟨hp1.trans hp2, List.forall_mem_cons.mpr ⟨.inr (hp2.mem hin1), hall⟩⟩
  -- the calls that end in an error
  all_goals intros; simp [node, succs, *] at *

theorem node_sound (g : Graph) : ∀ fuel n done stack done', Inv g stack done → n ∉ stack →
    node g fuel n done stack = .ok done' → Post g stack done done' ∧ n ∈ done' :=
  (sound g).1

theorem all_sound (g : Graph) (fuel : Nat) (roots done done' : List String) (hi : Inv g [] done)
    (h : all g fuel roots done = .ok done') : Post g [] done done' ∧ ∀ r ∈ roots, r ∈ done' := by
  fun_induction all g fuel roots done
  case case1 => cases h; exact ⟨.refl hi, nofun⟩
  case case2 => cases h
  case case3 r rs done done1 hnode ih =>
    obtain ⟨hp, hin⟩ := node_sound g fuel r done [] _ hi nofun hnode
    obtain ⟨hp2, hall⟩ := ih hp.inv h
    exact ⟨hp.trans hp2, List.forall_mem_cons.mpr ⟨hp2.mem hin, hall⟩⟩

/-- position of a node counted from the END of the completion order -/
def rankIn : List String → String → Nat
  | [], _ => 0
  | m :: rest, n => if m = n then rest.length + 1 else rankIn rest n

theorem rankIn_le (l : List String) (n : String) : rankIn l n ≤ l.length := by
  fun_induction rankIn l n <;> grind

theorem rankIn_pos (l : List String) (n : String) (h : n ∈ l) : 0 < rankIn l n := by
  fun_induction rankIn l n <;> grind

/-- **an accepted graph is acyclic**: along a sorted, duplicate-free completion order every
non-skipped successor has a strictly smaller rank -/
theorem sorted_rank (g : Graph) : ∀ (l : List String), Sorted g l → l.Nodup →
    ∀ n ∈ l, ∃ ss, g.succ n = some ss ∧
      ∀ s ∈ ss, g.skip s = true ∨ (s ∈ l ∧ rankIn l s < rankIn l n) := by
  intro l
  induction l with
  | nil => exact fun _ _ _ hn => nomatch hn
  | cons m rest ih =>
    intro ⟨⟨ss, hss, hall⟩, hrest⟩ hnd n hn
    obtain ⟨hm, hnd⟩ := List.nodup_cons.mp hnd
    -- a member of `rest` is not `m`, so it keeps the rank it has in `rest`
    have hrank : ∀ s ∈ rest, rankIn (m :: rest) s = rankIn rest s := fun s hs => if_neg fun e : m = s => hm (e ▸ hs)
    rcases List.mem_cons.mp hn with rfl | hn
    · refine ⟨ss, hss, fun s hs => (hall s hs).imp_right fun hin => ⟨.tail _ hin, ?_⟩⟩
      rw [hrank s hin, rankIn, if_pos rfl]
      exact Nat.lt_succ_of_le (rankIn_le rest s)
    · obtain ⟨ss', hss', hall'⟩ := ih hrest hnd n hn
      refine ⟨ss', hss', fun s hs => (hall' s hs).imp_right fun ⟨hin, hlt⟩ => ⟨.tail _ hin, ?_⟩⟩
      rw [hrank s hin, hrank n hn]
      exact hlt

/-- **what the search accepts is ranked**: every root is a node, and each of its successors is skipped or a node of
smaller rank -/
theorem all_ranked (g : Graph) (fuel : Nat) (roots order : List String) (h : all g fuel roots [] = .ok order) :
    ∃ rank : String → Nat, ∀ n ∈ roots, ∃ ss, g.succ n = some ss ∧
      ∀ s ∈ ss, g.skip s = true ∨ ((g.succ s).isSome ∧ rank s < rank n) := by
  obtain ⟨hp, hroots⟩ := all_sound g fuel roots [] order ⟨trivial, .nil, nofun⟩ h
  have hr := sorted_rank g order hp.inv.sorted hp.inv.nodup
  refine ⟨rankIn order, fun n hn => ?_⟩
  obtain ⟨ss, hss, hall⟩ := hr n (hroots n hn)
  refine ⟨ss, hss, fun s hs => (hall s hs).imp_right fun ⟨hin, hlt⟩ => ⟨?_, hlt⟩⟩
  obtain ⟨_, hs', _⟩ := hr s hin
  rw [hs']; rfl

/-- with more fuel than there are nodes, neither function runs out of it: the nodes in progress are distinct nodes,
and the fuel left plus their number stays above the number of nodes -/
theorem no_fuel (g : Graph) (nodes : List String) (hnodes : ∀ s, (g.succ s).isSome = true → s ∈ nodes) :
    (∀ fuel n done stack, stack.Nodup → stack ⊆ nodes → n ∉ stack → nodes.length < fuel + stack.length →
      node g fuel n done stack ≠ .error .fuel) ∧
    (∀ fuel n ss done stack, stack.Nodup → stack ⊆ nodes → nodes.length < fuel + stack.length →
      succs g fuel n ss done stack ≠ .error .fuel) := by
  apply node.mutual_induct g
  case case1 =>
    intro n done stack hs hsub _ hf
    have := hs.length_le_of_subset hsub
    omega
  case case4 =>
    -- the successors of a new node are resolved with one unit of fuel less and one more node in progress
    intro fuel n done stack hnin ss hs e he ih hnd hsub hns hf h
    rw [node, if_neg hnin, hs] at h; simp only [he] at h; cases h
    exact ih (List.nodup_cons.mpr ⟨hns, hnd⟩) (List.cons_subset.mpr ⟨hnodes n (by rw [hs]; rfl), hsub⟩)
      (by rw [List.length_cons]; omega) he
  case case7 =>
    intro fuel n s ss done stack hskip ih hnd hsub hf h
    rw [succs, if_pos hskip] at h
    exact ih hnd hsub hf h
  case case9 =>
    intro fuel n s ss done stack hskip hst hsome e he ih hnd hsub hf h
    rw [succs, if_neg hskip, if_neg hst, if_pos hsome] at h; simp only [he] at h; cases h
    exact ih hnd hsub hst hf he
  case case10 =>
    intro fuel n s ss done stack hskip hst hsome done1 he _ ih hnd hsub hf h
    rw [succs, if_neg hskip, if_neg hst, if_pos hsome] at h; simp only [he] at h
    exact ih hnd hsub hf h
  all_goals intros; simp [node, succs, *]

theorem all_no_fuel (g : Graph) (nodes : List String) (hnodes : ∀ s, (g.succ s).isSome = true → s ∈ nodes)
    (fuel : Nat) (hf : nodes.length < fuel) (roots done : List String) : all g fuel roots done ≠ .error .fuel := by
  fun_induction all g fuel roots done
  case case1 => nofun
  case case2 r rs done e hnode =>
    exact fun h => (no_fuel g nodes hnodes).1 fuel r done [] .nil nofun nofun (by simpa using hf) (by cases h; exact hnode)
  case case3 ih => exact ih

theorem lookup_isSome_mem {α : Type} (l : List (String × α)) (s : String) (h : (l.lookup s).isSome = true) :
    s ∈ l.map Prod.fst := by
  obtain ⟨p, hp, hk⟩ := List.lookup_isSome_iff.mp h
  exact List.mem_map.mpr ⟨p, hp, (beq_iff_eq.mp hk).symm⟩

end Just.Dfs
