import Just.Model.Header
import Just.Lemmas.SyntaxRoundtrip
/-
Round trip of recipe header lines: parse (print h) = h.  What may follow a phrase is said by the first token of the rest
and a Boolean class of tokens, so that the hypothesis is `rfl` where the token is known.
A `have` of the form `∀ r', ts ≠ t :: r'` that no later tactic names, here and in Lemmas/Items.lean and Lemmas/Ast.lean, is a
side condition of the match equations of a parsing function (head of Lemmas/Grammar.lean): `simp only [parseX]` finds it
among the hypotheses.
-/
namespace Just.Header
open Just Just.Syntax

/-- what `parse_value` returns: a literal, a variable or a call (of any name but `assert`: a parameter default is read by
`parse_value` directly, where `if` is no keyword), an `assert`, a parenthesised expression -/
def WFValue : Expr → Prop
  | .var n => n ≠ "assert"
  | .call n args => n ≠ "assert" ∧ fnOk n args.length = true ∧ WFs args
  | .str _ => True
  | .backtick _ => True
  | .assert a _ b m => WF a ∧ WF b ∧ WF m
  | .group e => WF e
  | .concat _ _ => False
  | .joinL _ _ => False
  | .joinR _ => False
  | .and _ _ => False
  | .or _ _ => False
  | .cond _ _ _ _ _ => False

def WFParam (p : Param) : Prop :=
  match p.default with
  | some d => WFValue d
  | none => True

/-- `parse_value` reads a printed value back.  A value whose name is not `if` is well-formed as an expression and derived at
level 0 (`printed`); `parse_value` itself does not know the keyword `if`, so a variable or function of that name is a value too. -/
theorem parseValue_rt (d : Expr) (hw : WFValue d) (fuel : Nat) (rest : List Tk) (hf : 4 * d.size ≤ fuel) (hafter : After d rest) :
    parseValue fuel (printE d ++ rest) = some (d, rest) := by
  refine Parses.complete_size (p := .value) ?_ fuel hf
  have viaWF : WF d → level d = 0 → Parses .value (printE d ++ rest) d rest := fun hwf hl =>
    printed d hwf 0 (Nat.le_of_eq hl) (by decide) rest (fun _ _ => rfl) hafter
  match d, hw with
  | .var n, hw =>
    exact .var (r := rest) hw (fun s _ hr hx => (hafter n rfl).2 hx s (hr ▸ rfl)) (fun _ hr => (hafter n rfl).1 (hr ▸ rfl))
  | .call n args, hw => exact .call hw.1 (printedArgs args hw.2.2 rest) hw.2.1
  | .str _, _ | .backtick _, _ => exact viaWF trivial rfl
  | .assert .., hw | .group _, hw => exact viaWF hw rfl

/-- arguments of a dependency: well-formed expressions; an argument after the first must not begin with a token that would
continue its predecessor: `&&`, `||`, or `/`, `+` when the predecessor does not end in a conditional (`StopE`) - or, when
the predecessor ends with an identifier, `(` (a call) or, after `x`, a string (a shell-expanded literal) -/
def WFArgs : List Expr → Prop
  | [] => True
  | [e] => WF e
  | e :: e' :: es => WF e ∧ StopE 3 e (printE e') ∧ After e (printE e') ∧ WFArgs (e' :: es)

def WFDep (d : Dep) : Prop := WFArgs d.args

structure WFHeader (h : Header) : Prop where
  params : ∀ p ∈ h.params, p.kind = .singular ∧ WFParam p
  variadic : ∀ v, h.variadic = some v → v.kind ≠ .singular ∧ WFParam v
  priors : ∀ d ∈ h.priors, WFDep d
  subsequents : ∀ d ∈ h.subsequents, WFDep d

/-- a token that may follow a parameter: not `=` (a bare name would take a default), and nothing the default's last name
would swallow -/
def afterParam : Tk → Bool
  | .other "Equals" | .lparen | .strAdj _ => false
  | _ => true

/-- … and that ends the list of parameters as well: not a name, not `$` -/
def endsParams (t : Tk) : Bool :=
  afterParam t && match t with
    | .ident _ | .other "Dollar" => false
    | _ => true

theorem after_of_afterParam {t : Tk} (h : afterParam t = true) (e : Expr) (r : List Tk) : After e (t :: r) :=
  after_of_closes (k := 0) (by cases t <;> first | rfl | cases h) e r

theorem parseParam_rt (fuel : Nat) (p : Param) (hw : WFParam p) (hfuel : ∀ d, p.default = some d → 4 * d.size ≤ fuel)
    {t : Tk} (ht : afterParam t = true) (r : List Tk) :
    parseParam fuel p.kind (printDollar p.exported ++ [.ident p.name] ++ printDefault p.default ++ t :: r) = some (p, t :: r) := by
  obtain ⟨kind, exported, name, default⟩ := p
  have hne : ∀ r', t :: r ≠ Tk.other "Equals" :: r' := by rintro _ ⟨⟩; cases ht
  cases default with
  | none =>
    cases exported <;>
      simp only [printDollar, printDefault, tDollar, parseParam, List.cons_append, List.nil_append, List.append_nil, Bool.false_eq_true,
        if_false, if_true]
  | some d =>
    have hv := parseValue_rt d hw fuel (t :: r) (hfuel d rfl) (after_of_afterParam ht d r)
    cases exported <;> simp [printDollar, printDefault, tDollar, tEquals, parseParam, hv]

theorem printParam_singular (p : Param) (h : p.kind = .singular) :
    printParam p = printDollar p.exported ++ [.ident p.name] ++ printDefault p.default := by
  simp [printParam, printKind, h]

theorem printParam_head (p : Param) (hk : p.kind = .singular) (rest : List Tk) :
    Begins afterParam (printParam p ++ rest) := by
  rw [printParam_singular p hk]
  cases p.exported <;> exact .cons rfl _

/-- the printed parameters in front of a token that ends them begin with a token that may follow a parameter, and are read back -/
theorem parseParams_rt (vfuel : Nat) {t : Tk} (ht : endsParams t = true) (r : List Tk) :
    ∀ (ps : List Param), (∀ p ∈ ps, p.kind = .singular ∧ WFParam p) → (∀ p ∈ ps, ∀ d, p.default = some d → 4 * d.size ≤ vfuel) →
    ∀ f, ps.length < f → Begins afterParam (printParams ps ++ t :: r)
      ∧ parseParams vfuel f (printParams ps ++ t :: r) = some (ps, t :: r)
  | [], _, _, f + 1, _ => by
    have h1 : ∀ n r', t :: r ≠ Tk.ident n :: r' := by rintro _ _ ⟨⟩; cases ht
    have h2 : ∀ r', t :: r ≠ Tk.other "Dollar" :: r' := by rintro _ ⟨⟩; cases ht
    exact ⟨.cons (Bool.and_eq_true_iff.mp ht).1 r, by simp only [printParams, List.nil_append, parseParams]⟩
  | p :: ps, hw, hfuel, f + 1, hf => by
    obtain ⟨⟨hk, hwp⟩, hws⟩ := List.forall_mem_cons.mp hw
    obtain ⟨hfp, hfs⟩ := List.forall_mem_cons.mp hfuel
    obtain ⟨⟨t', r', hnext, ht'⟩, hrec⟩ := parseParams_rt vfuel ht r ps hws hfs f (Nat.lt_of_succ_lt_succ hf)
    have hpar := parseParam_rt vfuel p hwp hfp ht' r'
    rw [hk, ← hnext] at hpar
    rw [printParams, List.append_assoc]
    refine ⟨printParam_head p hk _, ?_⟩
    rw [printParam_singular p hk]
    -- with or without `$`, the loop reads one parameter and goes on
    cases hex : p.exported <;>
      (rw [hex] at hpar
       simp only [printDollar, tDollar, List.cons_append, List.nil_append, Bool.false_eq_true, if_false, if_true] at hpar ⊢
       simp only [parseParams, hpar, hrec])

theorem parseDepArgs_rt (efuel : Nat) (rest : List Tk) :
    ∀ (args : List Expr), WFArgs args → (∀ e ∈ args, 4 * e.size + 3 ≤ efuel) → ∀ f, args.length < f →
    parseDepArgs efuel f (printArgList args ++ .rparen :: rest) = some (args, rest)
  | [], _, _, f + 1, _ => rfl
  | e :: es, hw, hfuel, f + 1, hf => by
    obtain ⟨hfe, hfs⟩ := List.forall_mem_cons.mp hfuel
    -- `e` is followed by the closing parenthesis or by the next argument, in front of which it stops (`WFArgs`)
    obtain ⟨hwe, hwes, hstop, hafter⟩ : WF e ∧ WFArgs es ∧ StopE 3 e (printArgList es ++ .rparen :: rest)
        ∧ After e (printArgList es ++ .rparen :: rest) := by
      cases es with
      | nil => exact ⟨hw, trivial, stopE_of_closes rfl _ _, after_of_closes (k := 3) rfl _ _⟩
      | cons e' es' =>
        -- `StopE` and `After` look at the first token only, which is the first token of the printed `e'`
        obtain ⟨t, r', hp, -⟩ := printE_head e'
        simp only [printArgList, List.append_assoc]
        obtain ⟨hwe, hs, ha, hwes⟩ := hw
        rw [hp] at hs ha ⊢
        exact ⟨hwe, hwes, hs, ha⟩
    have he : parseExpression efuel _ = _ := (printed e hwe 3 (level_le3 e) (Nat.le_refl _) _ hstop hafter).complete (Nat.le_refl _) hfe
    have hrec := parseDepArgs_rt efuel rest es hwes hfs f (Nat.lt_of_succ_lt_succ hf)
    have hne : ∀ r, printE e ++ (printArgList es ++ .rparen :: rest) ≠ Tk.rparen :: r := ((printE_head e).append _).ne rfl
    simp only [printArgList, List.append_assoc]
    simp only [parseDepArgs, he, hrec]

structure DepFuel (efuel afuel : Nat) (d : Dep) : Prop where
  exprs : ∀ e ∈ d.args, 4 * e.size + 3 ≤ efuel
  args : d.args.length < afuel

theorem acceptDep_rt (efuel afuel : Nat) (d : Dep) (hw : WFDep d) (hf : DepFuel efuel afuel d) (rest : List Tk) :
    acceptDep efuel afuel (printDep d ++ rest) = some (some d, rest) := by
  obtain ⟨recipe, args⟩ := d
  cases args with
  | nil => rfl
  | cons a as =>
    have := parseDepArgs_rt efuel rest (a :: as) hw hf.exprs afuel hf.args
    simp only [printDep, List.cons_append, List.nil_append, List.append_assoc] at this ⊢
    simp only [acceptDep, this]

theorem printDep_head (d : Dep) (rest : List Tk) :
    (∃ n r, printDep d ++ rest = Tk.ident n :: r) ∨ (∃ r, printDep d ++ rest = Tk.lparen :: r) := by
  obtain ⟨recipe, _ | ⟨a, as⟩⟩ := d
  · exact .inl ⟨_, _, rfl⟩
  · exact .inr ⟨_, rfl⟩

/-- a token that ends a list of dependencies: not a name, not `(` -/
def endsDeps : Tk → Bool
  | .ident _ | .lparen => false
  | _ => true

theorem parseDeps_rt (efuel afuel : Nat) {t : Tk} (ht : endsDeps t = true) (r : List Tk) :
    ∀ (ds : List Dep), (∀ d ∈ ds, WFDep d) → (∀ d ∈ ds, DepFuel efuel afuel d) → ∀ f, ds.length < f →
    parseDeps efuel afuel f (printDeps ds ++ t :: r) = some (ds, t :: r)
  | [], _, _, f + 1, _ => by
    have h1 : ∀ n r', t :: r ≠ Tk.ident n :: r' := by rintro _ _ ⟨⟩; cases ht
    have h2 : ∀ r', t :: r ≠ Tk.lparen :: r' := by rintro _ ⟨⟩; cases ht
    have h3 : ∀ n r', t :: r ≠ Tk.lparen :: Tk.ident n :: r' := fun n r' h => h2 _ h
    simp only [printDeps, List.nil_append, parseDeps, acceptDep]
  | d :: ds, hw, hfuel, f + 1, hf => by
    obtain ⟨hwd, hws⟩ := List.forall_mem_cons.mp hw
    obtain ⟨hfd, hfs⟩ := List.forall_mem_cons.mp hfuel
    have hd := acceptDep_rt efuel afuel d hwd hfd (printDeps ds ++ t :: r)
    have hrec := parseDeps_rt efuel afuel ht r ds hws hfs f (Nat.lt_of_succ_lt_succ hf)
    simp only [printDeps, List.append_assoc]
    simp only [parseDeps, hd, hrec]

structure HeaderFuel (fuel : Nat) (h : Header) : Prop where
  params : h.params.length < fuel
  defaults : ∀ p ∈ h.params, ∀ d, p.default = some d → 4 * d.size ≤ fuel
  variadic : ∀ v, h.variadic = some v → ∀ d, v.default = some d → 4 * d.size ≤ fuel
  priors : h.priors.length < fuel
  priorArgs : ∀ d ∈ h.priors, DepFuel fuel fuel d
  subsequents : h.subsequents.length < fuel
  subsequentArgs : ∀ d ∈ h.subsequents, DepFuel fuel fuel d

theorem parseTail_rt (h : Header) (hw : WFHeader h) (fuel : Nat) (hf : HeaderFuel fuel h) (rest : List Tk) :
    parseTail fuel (tColon :: (printDeps h.priors ++ (printSubsequents h.subsequents ++ tEol :: rest)))
      = some ((h.priors, h.subsequents), rest) := by
  simp only [tColon, tEol]
  cases hs : h.subsequents with
  | nil =>
    have hp := parseDeps_rt fuel fuel (t := .other "Eol") rfl rest h.priors hw.priors hf.priorArgs fuel hf.priors
    simp only [printSubsequents, List.nil_append, parseTail, hp, expectEol_eol]
  | cons s ss =>
    have hp := parseDeps_rt fuel fuel (t := .andand) rfl (printDeps (s :: ss) ++ Tk.other "Eol" :: rest) h.priors hw.priors hf.priorArgs
      fuel hf.priors
    have hsub := parseDeps_rt fuel fuel (t := .other "Eol") rfl rest (s :: ss) (hs ▸ hw.subsequents) (hs ▸ hf.subsequentArgs)
      fuel (hs ▸ hf.subsequents)
    simp only [printSubsequents, List.cons_append, parseTail, hp, hsub, expectEol_eol]

/-- the variadic parameter and the colon: it begins with `+`, `*` or `:` (which ends the parameters) and is read back -/
theorem parseVariadic_rt (h : Header) (hw : WFHeader h) (fuel : Nat) (hf : HeaderFuel fuel h) (rest : List Tk) :
    ∃ t r, printVariadic h.variadic ++ Tk.other "Colon" :: rest = t :: r ∧ endsParams t = true
      ∧ parseVariadic fuel (t :: r) = some (h.variadic, Tk.other "Colon" :: rest) := by
  cases hv : h.variadic with
  | none => exact ⟨_, _, rfl, rfl, by simp [parseVariadic]⟩
  | some v =>
    have hwv := hw.variadic v hv
    have hp := parseParam_rt fuel v hwv.2 (hf.variadic v hv) (t := .other "Colon") rfl rest
    cases hk : v.kind
    · exact absurd hk hwv.1
    all_goals
      rw [hk] at hp
      refine ⟨_, _, by simp only [printVariadic, printParam, printKind, hk, List.cons_append, List.nil_append, List.append_assoc]; rfl, rfl, ?_⟩
      simp only [tAsterisk, List.cons_append, List.nil_append, List.append_assoc] at hp ⊢
      simp only [parseVariadic, hp]

theorem parseHeader_rt (h : Header) (hw : WFHeader h) (fuel : Nat) (hf : HeaderFuel fuel h) (rest : List Tk) :
    parseHeader fuel (printHeader h ++ rest) = some (h, rest) := by
  obtain ⟨t, r, hvr, ht, hvar⟩ := parseVariadic_rt h hw fuel hf (printDeps h.priors ++ (printSubsequents h.subsequents ++ tEol :: rest))
  have hparams := (parseParams_rt fuel ht r h.params hw.params hf.defaults fuel hf.params).2
  have htail := parseTail_rt h hw fuel hf rest
  simp only [tColon] at htail
  have hnamed : ∀ q, parseNamed fuel q h.name (printParams h.params ++ (printVariadic h.variadic ++
      Tk.other "Colon" :: (printDeps h.priors ++ (printSubsequents h.subsequents ++ tEol :: rest))))
      = some (⟨q, h.name, h.params, h.variadic, h.priors, h.subsequents⟩, rest) := by
    intro q
    simp only [parseNamed, hvr, hparams, hvar, htail]
  obtain ⟨quiet, name, params, variadic, priors, subs⟩ := h
  cases quiet <;>
    simp only [printHeader, printQuiet, tAt, tColon, List.cons_append, List.nil_append, List.append_assoc, Bool.false_eq_true, if_false,
      if_true, parseHeader]
  · exact hnamed false
  · exact hnamed true

end Just.Header
