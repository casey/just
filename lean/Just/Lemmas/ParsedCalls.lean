import Just.Lemmas.SyntaxWF
/-
What the parser returns only calls functions that exist, with a number of arguments they accept: the parser's
`Thunk::resolve` check (`fnOk`) is the analyzer model's `callsOk`.
-/
namespace Just.Syntax
open Just

mutual
theorem callsOk_of_wf : (e : Expr) → WF e → e.callsOk = true
  | .str _, _ | .var _, _ | .backtick _, _ => rfl
  | .call f args, h => by
    simp only [Expr.callsOk, callsOkAny_of_wfs args h.2.2, Bool.and_true]
    exact h.2.1
  | .concat l r, h | .joinL l r, h | .and l r, h => by simp [Expr.callsOk, callsOk_of_wf l h.2.2.1, callsOk_of_wf r h.2.2.2]
  | .joinR r, h => by simp [Expr.callsOk, callsOk_of_wf r h.2]
  | .or l r, h => by simp [Expr.callsOk, callsOk_of_wf l h.2.1, callsOk_of_wf r h.2.2]
  | .cond a _ b t e, h => by
    simp [Expr.callsOk, callsOk_of_wf a h.1, callsOk_of_wf b h.2.1, callsOk_of_wf t h.2.2.1, callsOk_of_wf e h.2.2.2]
  | .assert a _ b m, h => by simp [Expr.callsOk, callsOk_of_wf a h.1, callsOk_of_wf b h.2.1, callsOk_of_wf m h.2.2]
  | .group e, h => by simp [Expr.callsOk, callsOk_of_wf e h]
theorem callsOkAny_of_wfs : (es : Exprs) → WFs es → es.callsOk = true
  | .nil, _ => rfl
  | .cons e es, h => by simp [Exprs.callsOk, callsOk_of_wf e h.1, callsOkAny_of_wfs es h.2]
end

/-- every expression the parser returns passes the analyzer model's call check -/
theorem parsed_callsOk (f : Nat) (ts : List Tk) (e : Expr) (r : List Tk) (h : parseExpression f ts = some (e, r)) : e.callsOk = true :=
  callsOk_of_wf e ((parserWF f).expression ts e r h)

end Just.Syntax
