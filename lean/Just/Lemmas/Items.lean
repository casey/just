import Just.Model.Items
import Just.Lemmas.Header
/-
Round trips of recipe bodies, assignments and aliases at token level.
-/
namespace Just.Items
open Just Just.Syntax Just.Header

def WFFrag : Frag → Prop
  | .text _ => True
  | .interp e => WF e

def fragFuel (efuel : Nat) : Frag → Prop
  | .text _ => True
  | .interp e => 4 * e.size + 3 ≤ efuel

theorem parseFrags_rt (efuel : Nat) (rest : List Tk) : ∀ (l : BLine), (∀ f ∈ l, WFFrag f) → (∀ f ∈ l, fragFuel efuel f) → ∀ f, l.length < f →
    parseFrags efuel f (printLine l ++ Tk.other "Eol" :: rest) = some (l, rest)
  | [], _, _, f + 1, _ => rfl
  | x :: xs, hw, hfuel, f + 1, hf => by
    obtain ⟨hwx, hws⟩ := List.forall_mem_cons.mp hw
    obtain ⟨hfx, hfs⟩ := List.forall_mem_cons.mp hfuel
    have hrec := parseFrags_rt efuel rest xs hws hfs f (Nat.lt_of_succ_lt_succ hf)
    cases x with
    | text s =>
      simp only [printLine, printFrag, List.cons_append, List.nil_append]
      simp only [parseFrags, hrec]
    | interp e =>
      have he := roundtrip_closed (e := e) hwx hfx (t := .other "InterpolationEnd") rfl (printLine xs ++ Tk.other "Eol" :: rest)
      simp only [printLine, printFrag, tInterpolationStart, tInterpolationEnd, List.cons_append, List.nil_append, List.append_assoc]
      simp only [parseFrags, he, hrec]

theorem printLine_not_dedent (l : BLine) (rest : List Tk) : ∀ r, printLine l ++ Tk.other "Eol" :: rest ≠ Tk.other "Dedent" :: r := by
  intro r h
  rcases l with _ | ⟨_ | _, _⟩ <;> simp [printLine, printFrag, tInterpolationStart] at h

theorem parseLines_rt (efuel ffuel : Nat) (rest : List Tk) : ∀ (ls : List BLine), (∀ l ∈ ls, ∀ f ∈ l, WFFrag f) →
    (∀ l ∈ ls, ∀ f ∈ l, fragFuel efuel f) → (∀ l ∈ ls, l.length < ffuel) → ∀ f, ls.length < f →
    parseLines efuel ffuel f (printLines ls ++ Tk.other "Dedent" :: rest) = some (ls, rest)
  | [], _, _, _, f + 1, _ => rfl
  | l :: ls, hw, hfuel, hlen, f + 1, hf => by
    obtain ⟨hwl, hws⟩ := List.forall_mem_cons.mp hw
    obtain ⟨hfl, hfs⟩ := List.forall_mem_cons.mp hfuel
    obtain ⟨hll, hls⟩ := List.forall_mem_cons.mp hlen
    have hl := parseFrags_rt efuel (printLines ls ++ Tk.other "Dedent" :: rest) l hwl hfl ffuel hll
    have hrec := parseLines_rt efuel ffuel rest ls hws hfs hls f (Nat.lt_of_succ_lt_succ hf)
    have hnd := printLine_not_dedent l (printLines ls ++ Tk.other "Dedent" :: rest)
    simp only [printLines, tEol, List.cons_append, List.append_assoc]
    simp only [parseLines, hl, hrec]

/-- no trailing empty line (what `parse_body` guarantees of its result) -/
def NoTrailingEmpty : List BLine → Prop
  | [] => True
  | [l] => l ≠ []
  | _ :: l' :: ls => NoTrailingEmpty (l' :: ls)

theorem dropTrailingEmpty_id : ∀ ls : List BLine, NoTrailingEmpty ls → dropTrailingEmpty ls = ls
  | [], _ => rfl
  | [[]], h => absurd rfl h
  | [_ :: _], _ => rfl
  | l :: l' :: ls, h => by
    have := dropTrailingEmpty_id (l' :: ls) h
    simp only [dropTrailingEmpty] at this ⊢
    rw [this]

theorem dropTrailingEmpty_snoc (ls : List BLine) : dropTrailingEmpty (ls ++ [[]]) = dropTrailingEmpty ls := by
  induction ls with
  | nil => rfl
  | cons l ls ih => simp only [List.cons_append, dropTrailingEmpty, ih]

/-- what `parse_body` keeps: lines of the body, the last of them not empty -/
theorem dropTrailingEmpty_spec (ls : List BLine) : NoTrailingEmpty (dropTrailingEmpty ls) ∧ ∀ l ∈ dropTrailingEmpty ls, l ∈ ls := by
  induction ls with
  | nil => exact ⟨trivial, fun _ h => h⟩
  | cons a as ih =>
    simp only [dropTrailingEmpty]
    cases h : dropTrailingEmpty as with
    | nil =>
      cases a with
      | nil => exact ⟨trivial, nofun⟩
      | cons x xs => exact ⟨List.cons_ne_nil _ _, by simp⟩
    | cons b bs =>
      rw [h] at ih
      exact ⟨ih.1, List.forall_mem_cons.mpr ⟨List.mem_cons_self, fun l hl => List.mem_cons_of_mem _ (ih.2 l hl)⟩⟩

structure BodyFuel (fuel : Nat) (ls : List BLine) : Prop where
  exprs : ∀ l ∈ ls, ∀ f ∈ l, fragFuel fuel f
  frags : ∀ l ∈ ls, l.length < fuel
  lines : ls.length < fuel

theorem parseBody_rt (fuel : Nat) (ls : List BLine) (hw : ∀ l ∈ ls, ∀ f ∈ l, WFFrag f) (hne : NoTrailingEmpty ls)
    (hf : BodyFuel fuel ls) (rest : List Tk) (hrest : ∀ r, rest ≠ Tk.other "Indent" :: r) :
    parseBody fuel (printBody ls ++ rest) = some (ls, rest) := by
  cases ls with
  | nil => simp only [printBody, List.nil_append, parseBody]
  | cons l ls' =>
    have h := parseLines_rt fuel fuel rest (l :: ls') hw hf.exprs hf.frags fuel hf.lines
    simp only [printBody, tIndent, tDedent, List.cons_append, List.append_assoc, List.nil_append] at h ⊢
    simp only [parseBody, h, dropTrailingEmpty_id (l :: ls') hne]

structure WFRecipe (r : Recipe) : Prop where
  header : WFHeader r.header
  body : ∀ l ∈ r.body, ∀ f ∈ l, WFFrag f
  noTrailingEmpty : NoTrailingEmpty r.body

structure RecipeFuel (fuel : Nat) (r : Recipe) : Prop where
  header : HeaderFuel fuel r.header
  body : BodyFuel fuel r.body

theorem parseAssignment_rt (fuel : Nat) (a : Assignment) (hw : WF a.value) (hf : 4 * a.value.size + 3 ≤ fuel) (rest : List Tk) :
    parseAssignment fuel (printAssignment a ++ rest) = some (a, rest) := by
  obtain ⟨exported, name, value⟩ := a
  have he := roundtrip_closed hw hf (t := .other "Eol") rfl rest
  cases exported <;> simp [printAssignment, printExport, tColonEquals, tEol, parseAssignment, he, expectEol_eol]

theorem parsePath_rt (rest : List Tk) (hrest : ∀ p r, rest ≠ Tk.other "ColonColon" :: Tk.ident p :: r) :
    ∀ (ps : List String) (f : Nat), ps.length < f → parsePath f (printPath ps ++ rest) = some (ps, rest)
  | [], f + 1, _ => by simp only [printPath, List.nil_append, parsePath]
  | p :: ps, f + 1, hf => by
    simp only [printPath, tColonColon, List.cons_append]
    simp only [parsePath, parsePath_rt rest hrest ps f (Nat.lt_of_succ_lt_succ hf)]

theorem parseAlias_rt (fuel : Nat) (a : Alias) (hf : a.path.length < fuel) (rest : List Tk) :
    parseAlias fuel (printAlias a ++ rest) = some (a, rest) := by
  have hp := parsePath_rt (Tk.other "Eol" :: rest) (fun p r h => by simp at h) a.path fuel hf
  simp only [printAlias, tColonEquals, tEol, List.cons_append, List.nil_append, List.append_assoc]
  simp only [parseAlias, hp, expectEol_eol]

end Just.Items
