import Just.Model.Unindent
/-
About `Just.Unindent` (src/unindent.rs): the common indentation that `foldCommon` computes is a prefix of the indentation
of every line that is not blank, and there is such a line (`foldCommon_some`), so the slices of `unindent` are in bounds.
-/
namespace Just.Unindent

theorem common_prefix (a b : List Char) : common a b <+: a ∧ common a b <+: b := by
  fun_induction common a b <;> simp_all [List.cons_prefix_cons]

theorem indentation_prefix (l : List Char) : indentation l <+: l := List.takeWhile_prefix _

theorem foldCommon_some {acc : Option (List Char)} {ls : List (List Char)} {r : List Char}
    (h : foldCommon acc ls = some r) :
    (∀ c, acc = some c → r <+: c) ∧ (∀ l ∈ ls, blank l = false → r <+: indentation l) ∧
      (acc = none → ∃ l ∈ ls, blank l = false) := by
  fun_induction foldCommon acc ls
  case case1 => cases h; exact ⟨fun c hc => Option.some.inj hc ▸ List.prefix_refl _, nofun, nofun⟩
  case case2 acc x xs hb ih =>
    obtain ⟨h1, h2, h3⟩ := ih h
    refine ⟨h1, fun l hl hnb => ?_, fun hn => (h3 hn).imp fun l hl => ⟨.tail _ hl.1, hl.2⟩⟩
    rcases List.mem_cons.mp hl with rfl | hl
    · exact absurd (hnb.symm.trans hb) nofun
    · exact h2 l hl hnb
  case case3 x xs hb c ih =>
    obtain ⟨h1, h2, _⟩ := ih h
    have hp := common_prefix c (indentation x)
    refine ⟨fun c' hc' => Option.some.inj hc' ▸ (h1 _ rfl).trans hp.1, fun l hl hnb => ?_, nofun⟩
    rcases List.mem_cons.mp hl with rfl | hl
    · exact (h1 _ rfl).trans hp.2
    · exact h2 l hl hnb
  case case4 x xs hb ih =>
    obtain ⟨h1, h2, _⟩ := ih h
    refine ⟨nofun, fun l hl hnb => ?_, fun _ => ⟨x, .head _, by simpa using hb⟩⟩
    rcases List.mem_cons.mp hl with rfl | hl
    · exact h1 _ rfl
    · exact h2 l hl hnb

end Just.Unindent
