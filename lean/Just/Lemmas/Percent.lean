import Just.Model.Percent
/-
About `Just.Percent` (`encode_uri_component`): decoding undoes encoding (`decode_encode`: a byte written as itself is
never `%`, 37, and the two hexadecimal digits of an escape read back as the byte), and the encoded text holds only safe
bytes, `%` and hexadecimal digits (`encode_output`).
-/
namespace Just.Percent

theorem unhex_hexDigit (n : Nat) (h : n < 16) : unhex (hexDigit n) = some n := by
  by_cases h10 : n < 10
  · rw [hexDigit, if_pos h10, unhex, if_pos ⟨Nat.le_add_right .., by omega⟩, Nat.add_sub_cancel_left]
  · rw [hexDigit, if_neg h10, unhex, if_neg (by omega), if_pos (by omega), Nat.add_sub_cancel_left]

theorem safe_ne_percent (b : Nat) (h : isSafe b = true) : b ≠ 37 := by
  intro h37; subst h37; simp [isSafe, isAlnum] at h

theorem decode_cons_ne (c : Nat) (rest : List Nat) (h : c ≠ 37) :
    decode (c :: rest) = (decode rest).map (c :: ·) := by
  rw [decode.eq_def]
  simp [h]

theorem decode_percent (h l : Nat) (rest : List Nat) :
    decode (37 :: h :: l :: rest) = combine (unhex h) (unhex l) (decode rest) := by
  rw [decode.eq_def]
  simp

theorem decode_encode : ∀ (bs : List Nat), (∀ b ∈ bs, b < 256) → decode (encode bs) = some bs := by
  intro bs
  induction bs with
  | nil => intro _; rfl
  | cons b rest ih =>
    intro hb
    have hrest := ih (fun x hx => hb x (List.mem_cons_of_mem _ hx))
    have hb256 : b < 256 := hb b (.head _)
    rw [encode, encodeByte]
    split
    · rw [List.singleton_append, decode_cons_ne b _ (safe_ne_percent b ‹_›), hrest]; rfl
    · rw [List.cons_append, List.cons_append, List.cons_append, List.nil_append, decode_percent,
        unhex_hexDigit (b / 16) (by omega), unhex_hexDigit (b % 16) (by omega), hrest, combine, Nat.div_add_mod']

theorem encode_output : ∀ (bs : List Nat), (∀ b ∈ bs, b < 256) →
    ∀ c ∈ encode bs, isSafe c = true ∨ c = 37 ∨ (unhex c).isSome = true := by
  intro bs
  induction bs with
  | nil => intro _ c hc; cases hc
  | cons b rest ih =>
    intro hb c hc
    have hb256 : b < 256 := hb b (by simp)
    simp only [encode, List.mem_append] at hc
    rcases hc with hc | hc
    · unfold encodeByte at hc
      split at hc
      · simp at hc; subst hc; left; assumption
      · simp only [List.mem_cons, List.not_mem_nil, or_false] at hc
        rcases hc with rfl | rfl | rfl
        · right; left; rfl
        · right; right; rw [unhex_hexDigit _ (by omega)]; rfl
        · right; right; rw [unhex_hexDigit _ (by omega)]; rfl
    · exact ih (fun x hx => hb x (List.mem_cons_of_mem _ hx)) c hc

end Just.Percent
