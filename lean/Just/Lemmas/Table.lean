import Just.Model.Determinism
/-
About `tinsert` and `build` of `Just.Determinism` (`Table::insert`, a `BTreeMap`): the table built from definitions with
distinct names is sorted and a permutation of them (`build_spec`), and two sorted permutations of each other are equal
(`sorted_perm_eq`), so the order in which the definitions are met does not reach the table.
-/
namespace Just.Determinism

def Sorted {α : Type} (t : List (String × α)) : Prop := t.Pairwise (fun a b => a.1 < b.1)

theorem tinsert_mem {α : Type} (k : String) (v : α) (t : List (String × α)) (x : String × α)
    (hx : x ∈ tinsert k v t) : x = (k, v) ∨ x ∈ t := by
  fun_induction tinsert k v t <;> grind

theorem tinsert_sorted {α : Type} (k : String) (v : α) (t : List (String × α)) (hs : Sorted t) :
    Sorted (tinsert k v t) := by
  fun_induction tinsert k v t
  case case1 => exact List.pairwise_singleton _ _
  case case2 => exact List.pairwise_cons.mpr (List.pairwise_cons.mp hs)
  case case3 k' v' rest _ hlt =>
    exact List.pairwise_cons.mpr
      ⟨fun b hb => (List.mem_cons.mp hb).elim (· ▸ hlt) fun hb => String.lt_trans hlt ((List.pairwise_cons.mp hs).1 b hb), hs⟩
  case case4 k' v' rest hne hnlt ih =>
    obtain ⟨h1, h2⟩ := List.pairwise_cons.mp hs
    refine List.pairwise_cons.mpr ⟨fun b hb => ?_, ih h2⟩
    rcases tinsert_mem k v rest b hb with rfl | hb
    · exact Decidable.byContradiction fun hn =>
        hne (String.le_antisymm (String.not_lt.mp hn) (String.not_lt.mp hnlt))
    · exact h1 b hb

theorem tinsert_perm {α : Type} (k : String) (v : α) (t : List (String × α)) (hk : k ∉ t.map Prod.fst) :
    (tinsert k v t).Perm ((k, v) :: t) := by
  fun_induction tinsert k v t
  case case1 | case3 => exact .refl _
  case case2 => exact absurd (.head _) hk
  case case4 ih => exact ((ih fun h => hk (.tail _ h)).cons _).trans (.swap ..)

theorem foldl_perm {α : Type} : ∀ (defs acc : List (String × α)),
    ((defs ++ acc).map Prod.fst).Nodup →
    (defs.foldl (fun t d => tinsert d.1 d.2 t) acc).Perm (defs ++ acc)
  | [], _, _ => .refl _
  | d :: ds, acc, hnd => by
    have hd : d.1 ∉ acc.map Prod.fst := fun h =>
      (List.nodup_cons.mp hnd).1 (List.map_append ▸ List.mem_append_right _ h)
    -- the table after the first insertion holds the same entries, so its keys are still distinct
    have hq : (ds ++ tinsert d.1 d.2 acc).Perm (d :: ds ++ acc) :=
      ((tinsert_perm d.1 d.2 acc hd).append_left ds).trans List.perm_middle
    exact (foldl_perm ds _ ((hq.map Prod.fst).nodup_iff.mpr hnd)).trans hq

theorem build_spec {α : Type} (σ : List (String × α)) (hnd : (σ.map Prod.fst).Nodup) :
    Sorted (build σ) ∧ (build σ).Perm σ :=
  ⟨List.foldlRecOn σ _ .nil fun t h d _ => tinsert_sorted d.1 d.2 t h, by simpa [build] using foldl_perm σ [] (by rwa [List.append_nil])⟩

theorem sorted_perm_eq {α : Type} (a b : List (String × α)) (ha : Sorted a) (hb : Sorted b)
    (h : a.Perm b) : a = b := by
  apply List.Perm.eq_of_pairwise (le := fun x y => x.1 < y.1)
  · intro x y _ _ hxy hyx; exact absurd hyx (String.lt_asymm hxy)
  · exact ha
  · exact hb
  · exact h

end Just.Determinism
