/-
Two runs of the same program under two configurations, compared through a relation `R` on event
lists: same outcome, `R`-related events.  If `R` is compatible with `[]`, `++` and the prompt
count, relates each prompt and body label to itself, and the leaf functions of every recipe are
related, then so are `runRecipe`, `runDeps`, `runInvs` and `runMain`.  The leaf functions of a recipe
are related as soon as its expressions, its command lines and the start of its script are
(`RecipeSim`).  "The echo switches change only the echo" and "a dry run prints what a real
run executes" are two choices of `R`.
-/
import Just.Lemmas.RunSeq
namespace Just.Run

structure EvRel (R : List Ev → List Ev → Prop) : Prop where
  nil : R [] []
  append : ∀ {a b c d}, R a b → R c d → R (a ++ c) (b ++ d)
  prompts : ∀ {a b}, R a b → countPrompts a = countPrompts b

def Sim (R : List Ev → List Ev → Prop) {α : Type} (x y : Res α) : Prop := x.2 = y.2 ∧ R x.1 y.1

theorem Sim.ite {R : List Ev → List Ev → Prop} {α : Type} (c : Prop) [Decidable c] {x y x' y' : Res α}
    (h1 : Sim R x y) (h2 : Sim R x' y') : Sim R (if c then x else x') (if c then y else y') := by
  split <;> assumption

section
variable {R : List Ev → List Ev → Prop} (hR : EvRel R)
include hR

theorem Sim.silent {α : Type} (x : Except Err α) : Sim R (([] : List Ev), x) ([], x) := ⟨rfl, hR.nil⟩

theorem Sim.andThen {α β : Type} {x y : Res α} {f g : List Ev → α → Res β} (hx : Sim R x y)
    (hf : ∀ e e' a, R e e' → Sim R (f e a) (g e' a)) : Sim R (andThen x f) (andThen y g) := by
  obtain ⟨e1, r1⟩ := x
  obtain ⟨e1', r1'⟩ := y
  obtain ⟨rfl, h1⟩ : r1 = r1' ∧ R e1 e1' := hx
  cases r1 with
  | error e => exact ⟨rfl, h1⟩
  | ok a => exact ⟨(hf e1 e1' a h1).1, hR.append h1 (hf e1 e1' a h1).2⟩

theorem runLines_sim {cfg cfg' : Cfg} {env : Env} (ri : Nat) (r : Recipe) (given ps : Args) (ls : List Line)
    (hfr : ∀ l ∈ ls, Sim R (evalList cfg' env ps l.frags) (evalList cfg env ps l.frags))
    (hcmd : ∀ l cmd, Sim R (runCmd cfg' env ri r given l cmd) (runCmd cfg env ri r given l cmd)) :
    Sim R (runLines cfg' env ri r given ps ls) (runLines cfg env ri r given ps ls) := by
  induction ls with
  | nil => exact Sim.silent hR _
  | cons l ls ih =>
    have ih := ih fun m hm => hfr m (List.mem_cons_of_mem _ hm)
    rw [runLines_cons, runLines_cons]
    exact (hfr l (List.mem_cons_self ..)).andThen hR fun _ _ _ _ =>
      Sim.ite _ ih ((hcmd l _).andThen hR fun _ _ _ _ => ih)

variable {P : Prog} {cfg cfg' : Cfg} {env : Env}

def SimA (R : List Ev → List Ev → Prop) (cfg cfg' : Cfg) (env : Env) (a : AExpr) : Prop :=
  ∀ ps, Sim R (evalA cfg' env ps a) (evalA cfg env ps a)

structure RecipeSim (R : List Ev → List Ev → Prop) (cfg cfg' : Cfg) (env : Env) (r : Recipe) : Prop where
  params : ∀ d, some d ∈ r.params → SimA R cfg cfg' env d
  priors : ∀ d ∈ r.priors, ∀ a ∈ d.args, SimA R cfg cfg' env a
  subs : ∀ d ∈ r.subs, ∀ a ∈ d.args, SimA R cfg cfg' env a
  body : ∀ l ∈ r.body, ∀ a ∈ l.frags, SimA R cfg cfg' env a
  cmd : ∀ ri given l cmd, Sim R (runCmd cfg' env ri r given l cmd) (runCmd cfg env ri r given l cmd)
  script : ∀ ri given lines, Sim R (scriptTail cfg' env ri r given lines) (scriptTail cfg env ri r given lines)

theorem evalList_sim (as : List AExpr) (hA : ∀ a ∈ as, SimA R cfg cfg' env a) (ps : Args) :
    Sim R (evalList cfg' env ps as) (evalList cfg env ps as) := by
  induction as with
  | nil => exact Sim.silent hR _
  | cons a as ih =>
    rw [evalList_cons, evalList_cons]
    exact (hA a (List.mem_cons_self ..) ps).andThen hR fun _ _ _ _ =>
      (ih fun b hb => hA b (List.mem_cons_of_mem _ hb)).andThen hR fun _ _ _ _ => Sim.silent hR _

theorem bindParams_sim (params : List (Option AExpr)) (hA : ∀ d, some d ∈ params → SimA R cfg cfg' env d) :
    ∀ ws bound, Sim R (bindParams cfg' env params ws bound) (bindParams cfg env params ws bound) := by
  induction params with
  | nil => intro ws bound; exact Sim.silent hR _
  | cons p params ih =>
    intro ws bound
    have ih := ih fun d hd => hA d (List.mem_cons_of_mem _ hd)
    cases ws with
    | cons w ws => simp only [bindParams]; exact ih ws _
    | nil =>
      cases p with
      | none => exact Sim.silent hR _
      | some d =>
        rw [bindParams_default, bindParams_default]
        exact (hA d (List.mem_cons_self ..) bound).andThen hR fun _ _ _ _ => ih [] _

theorem evalLines_sim (ls : List Line) (hA : ∀ l ∈ ls, ∀ a ∈ l.frags, SimA R cfg cfg' env a) (ps : Args) :
    Sim R (evalLines cfg' env ps ls) (evalLines cfg env ps ls) := by
  induction ls with
  | nil => exact Sim.silent hR _
  | cons l ls ih =>
    rw [evalLines_cons, evalLines_cons]
    exact (evalList_sim hR _ (hA l (List.mem_cons_self ..)) ps).andThen hR fun _ _ _ _ =>
      (ih fun m hm => hA m (List.mem_cons_of_mem _ hm)).andThen hR fun _ _ _ _ => Sim.silent hR _

theorem RecipeSim.runBody {r : Recipe} (hs : RecipeSim R cfg cfg' env r) (ri : Nat) (given ps : Args) :
    Sim R (runBody cfg' env ri r given ps) (runBody cfg env ri r given ps) := by
  unfold Run.runBody
  split
  · rw [runScript_eq, runScript_eq]
    exact (evalLines_sim hR _ hs.body ps).andThen hR fun _ _ _ _ => hs.script ..
  · exact runLines_sim hR ri r given ps r.body (fun l hl => evalList_sim hR _ (hs.body l hl) ps) (hs.cmd ri given)

variable (hself : ∀ ev, ev.isLeaf = false → R [ev] [ev])
  (hy : cfg'.yes = cfg.yes) (hn : cfg'.noDeps = cfg.noDeps)
include hn in
theorem runDeps_sim_of (fuel : Nat)
    (hrec : ∀ sub ri given ran k,
      Sim R (runRecipe P cfg' env fuel sub ri given ran k) (runRecipe P cfg env fuel sub ri given ran k)) :
    ∀ ds, (∀ d ∈ ds, ∀ ps, Sim R (evalList cfg' env ps d.args) (evalList cfg env ps d.args)) →
      ∀ sub ps ran k, Sim R (runDeps P cfg' env fuel sub ds ps ran k) (runDeps P cfg env fuel sub ds ps ran k) := by
  intro ds
  induction ds with
  | nil => intro _ sub ps ran k; rw [runDeps_nil, runDeps_nil]; exact Sim.silent hR _
  | cons d ds ih =>
    intro hd sub ps ran k
    rw [runDeps_cons, runDeps_cons, hn]
    refine Sim.ite _ (Sim.silent hR _) ?_
    refine (hd d (List.mem_cons_self ..) ps).andThen hR fun _ _ given _ => (hrec ..).andThen hR fun e e' ran1 he => ?_
    rw [hR.prompts he]
    exact ih (fun x hx => hd x (List.mem_cons_of_mem _ hx)) ..

include hself hy hn in
theorem runRecipe_sim (hP : ∀ r ∈ P.recipes, RecipeSim R cfg cfg' env r) : ∀ fuel sub ri given ran k,
    Sim R (runRecipe P cfg' env fuel sub ri given ran k) (runRecipe P cfg env fuel sub ri given ran k) := by
  intro fuel
  induction fuel with
  | zero => intro sub ri given ran k; rw [runRecipe_zero, runRecipe_zero]; exact Sim.silent hR _
  | succ n ih =>
    have ihD := runDeps_sim_of hR hn n ih
    intro sub ri given ran k
    rw [runRecipe_succ, runRecipe_succ]
    refine Sim.ite _ (Sim.silent hR _) ?_
    cases hr : P.recipes[ri]? with
    | none => exact Sim.silent hR _
    | some r =>
      have hs := hP r (List.mem_of_getElem? hr)
      have hc : Sim R (confirmStep cfg' env r ri k) (confirmStep cfg env r ri k) := by
        unfold confirmStep promptOf
        rw [hy]
        exact ⟨rfl, by split; exact hself _ rfl; exact hR.nil⟩
      refine hc.andThen hR fun e0 e0' _ h0 => (bindParams_sim hR _ hs.params given []).andThen hR fun _ _ ps _ => ?_
      -- related events hold the same number of prompts, so both runs ask for the same answer next
      rw [hR.prompts h0]
      refine (ihD r.priors (fun d hd => evalList_sim hR _ (hs.priors d hd)) ..).andThen hR fun e2 e2' ran1 h2 => ?_
      refine (show Sim R ([Ev.body ri given sub], .ok ()) ([Ev.body ri given sub], .ok ()) from
        ⟨rfl, hself _ rfl⟩).andThen hR fun _ _ _ _ => (hs.runBody hR ..).andThen hR fun _ _ _ _ => ?_
      rw [hR.prompts h2]
      exact (ihD r.subs (fun d hd => evalList_sim hR _ (hs.subs d hd)) ..).andThen hR fun _ _ _ _ => Sim.silent hR _

include hself hy hn in
theorem runInvs_sim (hP : ∀ r ∈ P.recipes, RecipeSim R cfg cfg' env r) (fuel : Nat) (invs : List Key) : ∀ ran k,
    Sim R (runInvs P cfg' env fuel invs ran k) (runInvs P cfg env fuel invs ran k) := by
  induction invs with
  | nil => intro ran k; exact Sim.silent hR _
  | cons inv invs ih =>
    intro ran k
    rw [runInvs_cons, runInvs_cons]
    refine (runRecipe_sim hR hself hy hn hP ..).andThen hR fun e e' ran1 he => ?_
    rw [hR.prompts he]
    exact ih ..

include hself hy hn in
theorem runMain_sim (hP : ∀ r ∈ P.recipes, RecipeSim R cfg cfg' env r)
    (hA : Sim R (runAssigns cfg' env P.assigns) (runAssigns cfg env P.assigns)) (invs : List Key) :
    (runMain P cfg' env invs).2 = (runMain P cfg env invs).2 ∧
      R (runMain P cfg' env invs).1 (runMain P cfg env invs).1 := by
  have h := hA.andThen hR fun _ _ _ _ => runInvs_sim hR hself hy hn hP (P.recipes.length + 1) invs [] 0
  rw [runMain_eq, runMain_eq]
  exact ⟨by simp only [h.1], h.2⟩

end
end Just.Run
