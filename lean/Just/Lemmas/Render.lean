import Just.Model.Render
import Just.Lemmas.Lexer
/-
Facts about positions, `lines` and the caret scan, used by the C12 theorems.
-/
namespace Just.Render
open Just.Lexer

/-- the current (partial) line after reading `pre`, reversed; `acc` is the partial line before -/
def accAfter : List Char → List Char → List Char
  | [], acc => acc
  | c :: cs, acc => if c = '\n' then accAfter cs [] else accAfter cs (c :: acc)

def lastLine (pre : List Char) : List Char := (accAfter pre []).reverse

def dispWidth (w : Char → Nat) (cs : List Char) : Nat := (cs.map (charWidth w)).sum

theorem linesGo_append (pre rest acc : List Char) : ∃ done : List (List Char), done.length = pre.count '\n' ∧
    linesGo (pre ++ rest) acc = done ++ linesGo rest (accAfter pre acc) := by
  induction pre generalizing acc with
  | nil => exact ⟨[], rfl, rfl⟩
  | cons c cs ih =>
    simp only [List.cons_append, linesGo, accAfter]
    split
    · obtain ⟨done, hl, h⟩ := ih []
      exact ⟨stripCr acc :: done, by simp [hl, ‹c = '\n'›], by rw [h]; rfl⟩
    · obtain ⟨done, hl, h⟩ := ih (c :: acc)
      exact ⟨done, by rw [hl, List.count_cons_of_ne (by simpa using ‹¬c = '\n'›)], h⟩

theorem foldl_stepPos (pre : List Char) (p : Pos) (acc : List Char) (hcol : p.column = utf8Len acc) :
    (pre.foldl stepPos p).line = p.line + pre.count '\n'
    ∧ (pre.foldl stepPos p).column = utf8Len (accAfter pre acc) := by
  induction pre generalizing p acc with
  | nil => simp [accAfter, hcol]
  | cons c cs ih =>
    simp only [List.foldl_cons, accAfter]
    by_cases h : c = '\n'
    · subst h
      have := ih (stepPos p '\n') [] (by simp [stepPos])
      simp only [if_true]
      refine ⟨?_, this.2⟩
      rw [this.1]; simp [stepPos]; omega
    · have := ih (stepPos p c) (c :: acc) (by simp [stepPos, h, hcol]; omega)
      simp only [h, if_false]
      refine ⟨?_, this.2⟩
      rw [this.1, List.count_cons_of_ne (by simpa using h)]; simp [stepPos, h]

theorem posR_reverse (pre : List Char) : posR pre.reverse = pre.foldl stepPos ⟨0, 0, 0⟩ := by
  have : ∀ (r : List Char), posR r = r.foldr (fun c p => stepPos p c) ⟨0, 0, 0⟩ := by
    intro r; induction r with
    | nil => rfl
    | cons c cs ih => simp [posR, ih]
  rw [this, List.foldr_reverse]

theorem posOf_line (pre : List Char) : (posOf pre).line = pre.count '\n' := by
  have := (foldl_stepPos pre ⟨0, 0, 0⟩ [] rfl).1
  simpa [posOf, posR_reverse] using this

theorem posOf_column (pre : List Char) : (posOf pre).column = utf8Len (lastLine pre) := by
  have := (foldl_stepPos pre ⟨0, 0, 0⟩ [] rfl).2
  simpa [posOf, posR_reverse, lastLine] using this

/-- the line selected by `lines().nth(line)` for a token that starts after `pre` -/
theorem lines_at (pre rest : List Char) :
    (lines (pre ++ rest))[(posOf pre).line]? = (linesGo rest (accAfter pre [])).head? := by
  obtain ⟨done, hl, h⟩ := linesGo_append pre rest []
  rw [lines, h, posOf_line, ← hl]
  simp [List.getElem?_append_right, List.head?_eq_getElem?]

theorem linesGo_noeol (a rest acc : List Char) (h : '\n' ∉ a) :
    linesGo (a ++ rest) acc = linesGo rest (a.reverse ++ acc) := by
  induction a generalizing acc with
  | nil => rfl
  | cons c cs ih => grind [linesGo]

theorem linesGo_eq_nil : ∀ (r acc : List Char), linesGo r acc = [] → r = []
  | [], _, _ => rfl
  | c :: cs, acc, h => by
    rw [linesGo] at h
    split at h
    · cases h
    · cases linesGo_eq_nil cs (c :: acc) h
      cases h

theorem stripCr_reverse {L : List Char} (h : L.getLast? ≠ some '\r') : stripCr L.reverse = L := by
  unfold stripCr
  split
  · rename_i r hr
    have : L = r.reverse ++ ['\r'] := by simpa using congrArg List.reverse hr
    rw [this] at h
    simp at h
  · simp

/-- the line `str::lines` yields for a token that starts after `pre`: the text before it on its
line, then `seg`, which runs to the end of the text, to a line feed or to a CRLF -/
theorem lines_select (pre seg eol : List Char) (hnl : '\n' ∉ seg)
    (heol : (eol = [] ∧ seg ≠ []) ∨ (∃ b, eol = '\n' :: b ∧ (lastLine pre ++ seg).getLast? ≠ some '\r') ∨
      (∃ b, eol = '\r' :: '\n' :: b)) :
    (lines (pre ++ seg ++ eol))[pre.count '\n']? = some (lastLine pre ++ seg) := by
  have := lines_at pre (seg ++ eol)
  rw [posOf_line] at this
  rw [List.append_assoc, this, linesGo_noeol _ _ _ hnl,
    show seg.reverse ++ accAfter pre [] = (lastLine pre ++ seg).reverse by simp [lastLine]]
  rcases heol with ⟨rfl, hne⟩ | ⟨b, rfl, hcr⟩ | ⟨b, rfl⟩
  · obtain ⟨c, cs, h⟩ := List.exists_cons_of_ne_nil (l := (lastLine pre ++ seg).reverse) (by simp [hne])
    rw [h, linesGo, ← h, List.reverse_reverse, List.head?_cons]
    exact nofun
  · rw [linesGo, if_pos rfl, List.head?_cons, stripCr_reverse hcr]
  · simp [linesGo, stripCr]

/-- A stretch of characters that lies on one side of the token — before it, inside it or after it —
adds its display width to the same component for every character: to space_column (`before`), to
space_width (`inside`) or to neither. -/
theorem scan_zone (w : Char → Nat) (column width : Nat) (before inside : Bool) (a rest : List Char) (i : Nat)
    (h : ∀ j, i ≤ j → j < i + utf8Len a →
      (j < column ↔ before = true) ∧ (j ≥ column ∧ j < column + width ↔ inside = true)) :
    scan w column width (a ++ rest) i =
      ((if before then dispWidth w a else 0) + (scan w column width rest (i + utf8Len a)).1,
       (if inside then dispWidth w a else 0) + (scan w column width rest (i + utf8Len a)).2) := by
  induction a generalizing i with
  | nil => simp [dispWidth]
  | cons c cs ih =>
    have hc : 0 < c.utf8Size := Char.utf8Size_pos c
    simp only [utf8Len_cons] at h
    simp only [List.cons_append, scan, utf8Len_cons]
    rw [ih (i + c.utf8Size) (fun j h1 h2 => h j (by omega) (by omega))]
    obtain ⟨h1, h2⟩ := h i (Nat.le_refl _) (by omega)
    simp only [h1, h2]
    cases before <;> cases inside <;> simp [dispWidth, Nat.add_assoc]

/-- the scan over a line `a ++ b ++ c` for a token that starts after `a` and whose part on the line
is `b`: the token ends with `b`, or runs on past the end of the line (the underline is clipped) -/
theorem scan_token (w : Char → Nat) (a b c : List Char) (width : Nat) (h : utf8Len b ≤ width)
    (hc : c = [] ∨ utf8Len b = width) :
    scan w (utf8Len a) width (a ++ b ++ c) 0 = (dispWidth w a, dispWidth w b) := by
  rw [List.append_assoc, scan_zone w _ _ true false a (b ++ c) 0 (fun j _ _ => by simp; omega),
    scan_zone w _ _ false true b c _ (fun j _ _ => by simp; omega), ← List.append_nil c,
    scan_zone w _ _ false false c [] _ (fun j _ hj => by
      rcases hc with rfl | hc
      · simp at hj; omega
      · simp; omega)]
  simp [scan]

/-- **The context of a token that starts after `pre`**: `b` is the part of the token on that line, `c` the rest of the
line, `eol` what follows the line; the token ends with `b`, or runs on past the line and `c` is empty. -/
theorem context_line (w : Char → Nat) (pre b c eol : List Char) (t : Tok)
    (hline : t.line = pre.count '\n') (hcol : t.column = utf8Len (lastLine pre))
    (hb : utf8Len b ≤ (if t.length = 0 then 1 else t.length))
    (hc : c = [] ∨ utf8Len b = (if t.length = 0 then 1 else t.length)) (hnl : '\n' ∉ b ++ c)
    (heol : (eol = [] ∧ b ++ c ≠ []) ∨ (∃ r, eol = '\n' :: r ∧ (lastLine pre ++ (b ++ c)).getLast? ≠ some '\r') ∨
      (∃ r, eol = '\r' :: '\n' :: r)) :
    context w (pre ++ (b ++ c) ++ eol) t = some
      { lineNumber := pre.count '\n' + 1
        columnNumber := utf8Len (lastLine pre) + 1
        echoed := expandTabs (lastLine pre ++ b ++ c)
        caretOffset := dispWidth w (lastLine pre)
        caretCount := max (dispWidth w b) 1 } := by
  unfold context
  rw [hline, lines_select pre (b ++ c) eol hnl heol]
  simp only [hcol]
  rw [← List.append_assoc, scan_token w (lastLine pre) b c _ hb hc]

end Just.Render
