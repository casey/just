import Just.Model.Define
/-
About `Just.Define` (`Analyzer::define`, src/analyzer.rs): `defineAll` succeeds iff the definitions are pairwise
`Compatible` and each agrees with the table it starts from (`defineAll_isSome`); `Compatible` is symmetric and `order` a
permutation, so the order in which `analyze` meets the definitions drops out of what it accepts (`accepts_iff`).
-/
namespace Just.Define

/-- two definitions may stand in one module: different names, or two recipes under
`allow-duplicate-recipes` -/
def Compatible (allow : Bool) (a b : Def) : Prop :=
  a.name = b.name → allow = true ∧ a.kind = .recipe ∧ b.kind = .recipe

theorem Compatible.symm {allow : Bool} {a b : Def} (h : Compatible allow a b) : Compatible allow b a := by
  intro hn
  have := h hn.symm
  exact ⟨this.1, this.2.2, this.2.1⟩

def TableOk (allow : Bool) (defs : List (String × DKind)) (ds : List Def) : Prop :=
  ∀ d ∈ ds, ∀ k0, defs.lookup d.name = some k0 → allow = true ∧ k0 = .recipe ∧ d.kind = .recipe

theorem define_isSome (allow : Bool) (defs : List (String × DKind)) (d : Def) :
    (define defs d (allowedFor allow d)).isSome ↔
      (∀ k0, defs.lookup d.name = some k0 → allow = true ∧ k0 = .recipe ∧ d.kind = .recipe) := by
  unfold define
  cases h : defs.lookup d.name with
  | none => simp
  | some k0 =>
    simp only [Option.some.injEq, forall_eq']
    cases hk : d.kind <;> cases k0 <;> simp [allowedFor, hk]

theorem define_result (defs : List (String × DKind)) (d : Def) (a : Bool) (defs' : List (String × DKind))
    (h : define defs d a = some defs') : defs' = (d.name, d.kind) :: defs := by
  unfold define at h
  split at h
  · split at h
    · exact (Option.some.inj h).symm
    · cases h
  · exact (Option.some.inj h).symm

theorem defineAll_isSome (allow : Bool) : ∀ (ds : List Def) (defs : List (String × DKind)),
    (defineAll allow ds defs).isSome ↔ (ds.Pairwise (Compatible allow) ∧ TableOk allow defs ds) := by
  intro ds
  induction ds with
  | nil => intro defs; simp [defineAll, TableOk]
  | cons d ds ih =>
    intro defs
    have hd := define_isSome allow defs d
    rw [defineAll, List.pairwise_cons, TableOk, List.forall_mem_cons, ← hd]
    cases h : define defs d (allowedFor allow d) with
    | none => simp
    | some defs' =>
      cases define_result defs d _ defs' h
      have hok := hd.mp (by rw [h]; rfl)
      -- a later definition `b` meets the entry of `d` if it has the same name, and the older table otherwise
      have key : ∀ b, (∀ k0, ((d.name, d.kind) :: defs).lookup b.name = some k0 → allow = true ∧ k0 = .recipe ∧ b.kind = .recipe) ↔
          (Compatible allow d b ∧ ∀ k0, defs.lookup b.name = some k0 → allow = true ∧ k0 = .recipe ∧ b.kind = .recipe) := by
        intro b
        by_cases hn : b.name = d.name
        · simp only [List.lookup_cons, hn, beq_self_eq_true, Option.some.injEq, forall_eq', Compatible, true_imp_iff]
          exact ⟨fun h => ⟨h, fun k0 hk => ⟨h.1, (hok k0 hk).2.1, h.2.2⟩⟩, fun h => h.1⟩
        · simp only [List.lookup_cons, beq_false_of_ne hn]
          exact (and_iff_right fun e => absurd e.symm hn).symm
      simp only [ih, TableOk, key, Option.isSome_some, true_and]
      exact ⟨fun ⟨h1, h2⟩ => ⟨⟨fun b hb => (h2 b hb).1, h1⟩, fun b hb => (h2 b hb).2⟩,
        fun ⟨⟨h1, h2⟩, h3⟩ => ⟨h2, fun b hb => ⟨h1 b hb, h3 b hb⟩⟩⟩

theorem order_perm (items : List Def) : (order items).Perm items := by
  unfold order
  have := List.filter_append_perm isRecipe items
  exact (List.perm_append_comm).trans this

theorem hasDup_iff (xs : List String) : hasDup xs = false ↔ xs.Nodup := by
  fun_induction hasDup xs <;> simp_all

/-- what the duplicate checks accept, as a statement about the set of definitions: the order in which `analyze` meets them
(`order`) and the table built on the way do not occur in it -/
theorem accepts_iff (allowRecipes allowVars : Bool) (items : List Def) (vars : List String) :
    accepts allowRecipes allowVars items vars = true ↔
      (items.Pairwise (Compatible allowRecipes) ∧ (allowVars = true ∨ vars.Nodup)) := by
  have ht : TableOk allowRecipes [] (order items) := fun _ _ _ hk => nomatch hk
  rw [accepts, Bool.and_eq_true, defineAll_isSome, (order_perm items).pairwise_iff Compatible.symm, Bool.or_eq_true,
    ← hasDup_iff, and_iff_left ht]
  cases hasDup vars <;> simp

end Just.Define
