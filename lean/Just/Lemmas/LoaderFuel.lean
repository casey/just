import Just.Lemmas.LoaderChain
/-
The loader terminates on every file graph: a source with a chain of length L can make the loader
do at most W (N + 1 - L) steps (N files, at most B items per file), because every source it pushes
has a longer repetition-free chain.
-/
namespace Just.Imports

/-- steps needed below a source whose chain may still grow by `d` files, with at most `b` items per file -/
def W (b : Nat) : Nat → Nat
  | 0 => 1
  | d + 1 => 1 + b * W b d

theorem W_pos (b d : Nat) : 0 < W b d := by cases d <;> simp [W]; omega

def maxItems : FS → Nat
  | [] => 0
  | f :: fs => max f.items.length (maxItems fs)

theorem items_le_max {fs : FS} {f : File} (h : f ∈ fs) : f.items.length ≤ maxItems fs := by
  induction fs with
  | nil => cases h
  | cons x xs ih =>
    rcases List.mem_cons.mp h with rfl | h
    · exact Nat.le_max_left ..
    · exact Nat.le_trans (ih h) (Nat.le_max_right ..)

def weight (fs : FS) (s : Source) : Nat := W (maxItems fs) (fs.length + 1 - s.chain.length)

/-- what the termination proof keeps of every source on the stack: a `GoodSource` whose chain, its own file apart (that one is
looked up when the source is popped), names files of `fs` -/
structure Valid (fs : FS) (s : Source) : Prop where
  good : GoodSource s
  exist : ∀ f ∈ s.chain, f ≠ s.file → f < fs.length

theorem loadLoop_no_fuel (fs : FS) (fuel : Nat) (stack : List Source) (depths : List (Nat × Nat)) (log : List Source)
    (hst : ∀ s ∈ stack, Valid fs s) (hf : (stack.map (weight fs)).sum < fuel) :
    loadLoop fs fuel stack depths log ≠ .error .fuel := by
  fun_induction loadLoop fs fuel stack depths log with
  | case1 => omega
  | case2 | case3 => nofun
  | case4 fuel cur stack depths log file hfile e he =>
    have := pushes_eq cur file.items
    rw [he] at this
    exact fun h => this (Except.error.inj h)
  | case5 fuel cur stack depths log file hfile ss hss ih =>
    have hp := pushes_eq cur file.items
    rw [hss] at hp
    obtain ⟨rfl, hnew⟩ := hp
    have hcur := hst cur (List.mem_cons_self ..)
    -- every file of the current chain exists: the source's own was just read
    have hall : ∀ f ∈ cur.chain, f < fs.length := fun f hf' =>
      if e : f = cur.file then e ▸ (List.getElem?_eq_some_iff.mp hfile).1 else hcur.exist f hf' e
    have hL := hcur.good.length_le hall
    -- the children are valid and each weighs W (N - L); there are at most `maxItems` of them
    have hw : ∀ s ∈ (file.items.filterMap Item.target).map (child cur),
        weight fs s = W (maxItems fs) (fs.length - cur.chain.length) := by
      rw [List.forall_mem_map]
      intro t _
      simp only [weight, child, List.length_append, List.length_singleton]
      congr 1
      omega
    have hlen : ((file.items.filterMap Item.target).map (child cur)).length ≤ maxItems fs := by
      rw [List.length_map]
      exact Nat.le_trans (List.length_filterMap_le ..) (items_le_max (List.mem_of_getElem? hfile))
    have hcurw : weight fs cur = 1 + maxItems fs * W (maxItems fs) (fs.length - cur.chain.length) := by
      simp only [weight]
      rw [show fs.length + 1 - cur.chain.length = (fs.length - cur.chain.length) + 1 by omega]
      rfl
    refine ih (fun s hs => ?_) ?_
    · rcases List.mem_append.mp hs with hs | hs
      · obtain ⟨t, ht, rfl⟩ := List.mem_map.mp (List.mem_reverse.mp hs)
        refine ⟨child_good hcur.good (hnew t ht), fun f hf' hne => ?_⟩
        rcases List.mem_append.mp hf' with hf' | hf'
        · exact hall f hf'
        · exact absurd (List.mem_singleton.mp hf') hne
      · exact hst s (List.mem_cons_of_mem _ hs)
    · rw [List.map_append, List.sum_append_nat, List.map_reverse, List.sum_reverse_nat,
        List.map_eq_replicate_iff.mpr hw, List.sum_replicate_nat]
      rw [List.map_cons, List.sum_cons, hcurw] at hf
      have := Nat.mul_le_mul_right (W (maxItems fs) (fs.length - cur.chain.length)) hlen
      omega

end Just.Imports
