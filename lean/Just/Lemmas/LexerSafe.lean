import Just.Lemmas.Lexer
/-
Towards "no `assert_eq!` and no `internal_error` site of the lexer is reachable".  One walk through
each token-level function shows that, from any state, it ends idle (no token in progress), because
each of its paths ends with `token`, and that it fails with an ordinary diagnostic if it was called
on a first character that fits it.
-/
namespace Just.Lexer

variable {src : List Char} {α β : Type} {P : St → Prop} {E : St → Err → Prop} {C : St → Prop}

/-- `EI src m`: `m` ends idle, that is, keeps `Inv src` and leaves no token in progress; statement form of the lemmas `EI.*`
at the end of the file, which are instances of the `_lex` triples. -/
structure EI (src : List Char) {α : Type} (m : M α) : Prop where
  pres : Preserves src m
  ends : ∀ s a s', Inv src s → m s = .ok (a, s') → s'.cur = []

def Idle (s : St) : Prop := s.cur = [] ∧ s.tokEnd = s.tokStart

abbrev EndsIdle : St → α → St → Prop := fun _ _ s' => Idle s'

def ErrKind.isInternal : ErrKind → Bool
  | .internal _ => true
  | _ => false

abbrev Fits (C : St → Prop) : St → Err → Prop := fun s e => C s → e.kind.isDiagnostic = true

abbrev Ordinary : St → Err → Prop := Fits fun _ => True

abbrev Head (c : Char) (s : St) : Prop := s.rest.head? = some c

/-- `NI0 m`: no internal error under no (0) hypothesis, from whatever state `m` runs; statement form of the lemmas `NI0.*` at the
end of the file. -/
structure NI0 {α : Type} (m : M α) : Prop where
  run : ∀ s e, m s = .error e → e.kind.isInternal = false

/-- `NIH P m`: no internal error under the hypothesis `P` on the state `m` runs from; statement form of the lemmas `NIH.*` at
the end of the file, which are instances of the `_lex` triples. -/
structure NIH {α : Type} (P : St → Prop) (m : M α) : Prop where
  run : ∀ s e, P s → m s = .error e → e.kind.isInternal = false

theorem ErrKind.not_internal {k : ErrKind} (h : k.isDiagnostic = true) : k.isInternal = false := by
  cases k <;> first | rfl | cases h

theorem ErrKind.isAssert_le_isInternal {k : ErrKind} (h : k.isInternal = false) : k.isAssert = false := by
  unfold ErrKind.isAssert
  split
  · cases h
  · rfl

theorem Triple.fits {x : M α} {f : α → M β} {Q1 : St → α → St → Prop} {Q : St → β → St → Prop}
    (hx : Triple P x Q1 fun s _ => ¬C s) (hf : ∀ s a, P s → Triple (Q1 s a) (f a) (fun _ => Q s) (Fits fun _ => C s)) :
    Triple P (x >>= f) Q (Fits C) :=
  .bind (hx.error fun _ _ _ h hc => absurd hc h) hf

theorem mkError_plain (k : ErrKind) (hk : plainKind k = true) (s : St) : (mkError k s).kind.isDiagnostic = true := by
  rcases mkError_cases k s with ⟨_, _, _, h⟩ | ⟨h, _⟩
  · rw [h]; cases k <;> first | rfl | cases hk
  · rw [hk] at h; cases h

theorem Triple.plain {k : ErrKind} {Q : St → α → St → Prop} (hk : plainKind k = true) :
    Triple P (Lexer.failWith (mkError k) : M α) Q (Fits C) :=
  .failWith fun s _ _ => mkError_plain k hk s

/-! ### one walk through each token-level function -/

theorem token_idle (k : Kind) : Triple P (token k) EndsIdle E := fun _ _ => ⟨rfl, rfl⟩

theorem setFrame_keep (f : St → Frame) (hf : ∀ s, (f s).interp = s.interp) :
    Triple P (setFrame f) (fun s _ s' => s' = s.setFrame (f s)) E :=
  (setFrame_spec f).total.pre fun s _ => okInterp_iff.2 fun _ ht => .inl (hf s ▸ ht)

/-- `C` is a variable here and in every other `_lex` lemma that ends in `Fits C`: each holds for every `C`, `fun _ => True`
among them, so the function fails only with a diagnostic, whatever the state. -/
theorem lexWhitespace_lex : Triple P lexWhitespace EndsIdle (Fits C) :=
  .bind (advanceWhile_spec _).safe fun _ _ _ => token_idle _

theorem unexpectedSecond_lex {Q : St → Unit → St → Prop} : Triple P unexpectedSecond Q (Fits C) := by
  unfold unexpectedSecond
  exact .bind (token_idle _) fun _ _ _ => .getBind fun s _ => .ite (fun _ => .plain rfl) fun h =>
    .bind (advance_any.conseq (fun _ h => h) (fun _ _ _ _ _ => trivial) fun _ _ hs he => absurd (by simp [atEof, ← hs, he.1]) h)
      fun _ _ _ => .plain rfl

theorem tryChoices_lex (cs : List (Char × Kind)) : Triple P (tryChoices cs) (fun _ b s' => b = true → Idle s') (Fits C) := by
  induction cs generalizing P C with
  | nil => exact .pure fun _ _ => nofun
  | cons c cs ih =>
    exact .bind (accepted_spec _).safe fun _ _ _ => .ite (fun _ => .bind (token_idle _) fun _ _ _ => .pure fun _ h _ => h) fun _ => ih

theorem lexSingle_lex (c : Char) (k : Kind) : Triple P (lexSingle k) EndsIdle (Fits (Head c)) :=
  .fits (advance_head c) fun _ _ _ => token_idle k

theorem lexDouble_lex (a b : Char) (k : Kind) :
    Triple P (lexDouble k) (fun _ _ s' => Idle s' ∧ s'.tokens ≠ []) (Fits fun s => [a, b].isPrefixOf s.rest = true) := by
  unfold lexDouble
  refine .fits (Q1 := fun s _ s' => ∃ c, Fed [c] s s') (advance_any.error fun s _ _ h hp => ?_) fun s _ _ =>
    .bind (advance_any.conseq (fun _ h => h) (fun _ _ _ _ _ => trivial) fun s1 _ ⟨c, h1⟩ h hp => ?_) fun _ _ _ =>
      fun _ _ => ⟨⟨rfl, rfl⟩, List.cons_ne_nil _ _⟩
  · obtain ⟨m, hm⟩ := prefix_split hp; simp [hm] at h
  · obtain ⟨m, hm⟩ := prefix_split hp
    have := h1.rest; rw [hm, h.1] at this; simp at this

theorem lexComment_lex : Triple P lexComment EndsIdle (Fits (Head '#')) :=
  .fits (presume_any '#') fun _ _ _ => .getBind fun s _ =>
    .seq (advanceToEolAux_spec s.rest).safe (fun _ h => h ▸ rfl) fun _ _ _ => token_idle _

theorem lexIdentifier_lex (c : Char) : Triple P lexIdentifier EndsIdle (Fits (Head c)) :=
  .fits (advance_head c) fun _ _ _ => .bind (advanceWhile_spec _).safe fun _ _ _ => token_idle _

theorem lexChoices_lex (f : Char) (cs : List (Char × Kind)) (o : Option Kind) :
    Triple P (lexChoices f cs o) EndsIdle (Fits (Head f)) := by
  unfold lexChoices
  refine .fits (presume_any f) fun _ _ _ => .bind (tryChoices_lex cs) fun _ _ _ => .ite (fun hb => .pure fun _ h => h hb) fun _ => ?_
  split
  · exact token_idle _
  · exact unexpectedSecond_lex

theorem lexDigraph_lex (l r : Char) (k : Kind) : Triple P (lexDigraph l r k) EndsIdle (Fits (Head l)) :=
  .fits (presume_any l) fun _ _ _ => .bind (accepted_spec r).safe fun _ _ _ =>
    .ite (fun _ => token_idle k) fun _ => unexpectedSecond_lex

theorem lexColon_lex : Triple P lexColon EndsIdle (Fits (Head ':')) :=
  .fits (presume_any ':') fun _ _ _ => .bind (accepted_spec '=').safe fun _ _ _ => .ite (fun _ => token_idle _) fun _ =>
    .bind (accepted_spec ':').safe fun _ _ _ => .ite (fun _ => token_idle _) fun _ =>
      .bind (token_idle _) fun _ _ _ => (setFrame_keep _ fun _ => rfl).post fun _ _ _ h h' => h' ▸ h

theorem lexEscape_lex : Triple P lexEscape EndsIdle (Fits (Head '\\')) := by
  unfold lexEscape
  refine .fits (presume_any '\\') fun _ _ _ => .bind (accepted_spec '\n').safe fun _ _ _ => .ite (fun _ => lexWhitespace_lex) fun _ =>
    .bind (accepted_spec '\r').safe fun _ _ _ =>
      .ite (fun _ => .bind (accepted_spec '\n').safe fun _ _ _ => .ite (fun _ => .plain rfl) fun _ => lexWhitespace_lex)
      fun _ => .getBind fun _ _ => ?_
  split
  · exact .plain rfl
  · exact token_idle _

/-- if `\r` is not accepted the state is unchanged and the next character is the `\n` that is presumed -/
theorem lexEolHead_lex : Triple P lexEolHead AnyEnd (Fits fun s => Head '\n' s ∨ Head '\r' s) := by
  unfold lexEolHead
  refine .bind (accepted_spec '\r').total fun s b _ => .ite
    (fun _ => .bind (accepted_spec '\n').safe fun _ _ _ => .ite (fun _ => .plain rfl) fun _ => .pure fun _ _ => trivial)
    fun hb => (presume_any '\n').conseq (fun _ h => h) (fun _ _ _ _ _ => trivial) fun s' _ h' h hs => ?_
  obtain ⟨rfl, hn⟩ := h'.2 (by simpa using hb)
  exact absurd (hs.resolve_right fun hr => by simp [nextIs, hr] at hn) h

theorem lexEol_lex : Triple P lexEol EndsIdle (Fits fun s => Head '\n' s ∨ Head '\r' s) :=
  .bind lexEolHead_lex fun _ _ _ => .getBind fun _ _ => .ite (fun _ => token_idle _) fun _ => token_idle _

theorem closeDelimiter_lex (d : Delim) : Triple P (closeDelimiter d) (fun s _ s' => s'.rest = s.rest) (Fits C) := by
  unfold closeDelimiter
  refine .getBind fun s _ => ?_
  split
  · exact .bind (setFrame_keep _ fun _ => rfl) fun _ _ _ => .ite (fun _ => .pure fun _ h' => h' ▸ rfl) fun _ => .plain rfl
  · exact .plain rfl

theorem openDelimiter_lex (d : Delim) : Triple P (openDelimiter d) (fun s _ s' => s'.rest = s.rest) (Fits C) :=
  (setFrame_keep _ fun _ => rfl).post fun _ _ _ _ h => h ▸ rfl

theorem lexDelimiter_lex (c : Char) (k : Kind) (hk : isDelimiterKind k = true) :
    Triple P (lexDelimiter k) EndsIdle (Fits (Head c)) :=
  .bind (delimiterAction_cases (P := fun m => Triple P m (fun s _ s' => s'.rest = s.rest) (Fits (Head c)))
    openDelimiter_lex closeDelimiter_lex k hk) fun _ _ _ => (lexSingle_lex c k).error fun _ _ hr h hc => h (by rw [Head, hr]; exact hc)

/-! ### strings -/

theorem isDelimiterStart_append (l x : List Char) (h : (isDelimiterStart l).isSome = true) :
    (isDelimiterStart (l ++ x)).isSome = true := by
  rw [isDelimiterStart_isSome] at h ⊢
  cases l with
  | nil => simp at h
  | cons c cs => simpa using h

theorem mkError_string (k : ErrKind) (hk : k = .unterminatedString ∨ k = .unterminatedBacktick) (s : St)
    (hc : (isDelimiterStart s.cur.reverse).isSome = true) : (mkError k s).kind.isDiagnostic = true := by
  rcases mkError_cases k s with ⟨_, _, _, h⟩ | ⟨_, h, _⟩
  · rw [h]; rcases hk with rfl | rfl <;> rfl
  · rw [h] at hc; cases hc

/-- the string scan keeps "the lexeme starts with a delimiter", which makes its error ordinary, and stops before the
closing delimiter -/
theorem stringLoop_lex (d : List Char) (esc : Bool) (k : ErrKind) (hk : k = .unterminatedString ∨ k = .unterminatedBacktick)
    (cs : List Char) (b : Bool) :
    Triple (fun s => s.rest = cs) (stringLoop d esc k cs b) (fun _ _ s' => ∃ r, s'.rest = d ++ r)
      (Fits fun s => (isDelimiterStart s.cur.reverse).isSome = true) := by
  induction cs generalizing b with
  | nil => exact .failWith fun s _ hc => mkError_string k hk s hc
  | cons c cs ih =>
    have step : ∀ b', Triple (fun s => s.rest = c :: cs) (do advance; stringLoop d esc k cs b')
        (fun _ _ s' => ∃ r, s'.rest = d ++ r) (Fits fun s => (isDelimiterStart s.cur.reverse).isSome = true) := fun b' =>
      Fed.andThen (advance_spec c) (ih b') (fun _ _ _ _ _ h => h) fun _ _ _ h' h hc => h (by
        show (isDelimiterStart _).isSome = true
        rw [h'.cur, List.reverse_append]; exact isDelimiterStart_append _ _ hc)
    unfold stringLoop
    exact .ite (fun _ => step _) fun _ => .ite (fun hp => .pure fun s hs => hs ▸ prefix_split (Bool.and_eq_true _ _ ▸ hp).1)
      fun _ => step _

theorem lexString_lex :
    Triple P lexString EndsIdle (Fits fun s => s.cur = [] ∧ (isDelimiterStart s.rest).isSome = true) := by
  unfold lexString
  refine .getBind fun s _ => ?_
  cases hds : isDelimiterStart s.rest with
  | none => exact (Triple.thenNever fun _ => .fails).error fun _ _ h _ hc => by have := hc.2; rw [h, hds] at this; cases this
  | some v =>
    obtain ⟨delim, kind, escapes⟩ := v
    obtain ⟨m, hm⟩ := isDelimiterStart_prefix hds
    refine .seq (presumeStr_spec delim).total (fun _ h => ⟨m, h ▸ hm⟩) fun _ _ h0 => .getBind fun s1 h1 => ?_
    subst h0
    refine .bind (((stringLoop_lex delim escapes _ (stringErrKind_cases kind) s1.rest false).pre (P' := fun s' => s' = s1)
      fun _ h => h ▸ rfl).error
      fun _ _ h h' hc => h' ?_) fun _ _ _ => .seq (presumeStr_spec delim).safe (fun _ h => h) fun _ _ _ => token_idle kind
    cases h
    rw [h1.cur, hc.1, List.append_nil, List.reverse_reverse]
    exact isDelimiterStart_delim hds

/-! ### `lex_normal`, interpolations, bodies -/

def AtStart (start : Char) (s : St) : Prop := s.rest.head? = some start ∧ s.cur = []

theorem lexOther_lex (s0 : St) (c : Char) : Triple P (lexOther s0 c) EndsIdle (Fits (AtStart c)) := by
  have hh : ∀ {m : M Unit}, Triple P m EndsIdle (Fits (Head c)) → Triple P m EndsIdle (Fits (AtStart c)) :=
    fun h => h.error fun _ _ _ h hc => h hc.1
  refine lexOther_cases (P := fun m => Triple P m EndsIdle (Fits (AtStart c))) s0 c (.plain rfl)
    (fun cs o => hh (lexChoices_lex c cs o)) (fun h => hh (h ▸ lexComment_lex)) (fun k => hh (lexSingle_lex c k))
    (fun k => hh (lexDigraph_lex c c k)) (fun k hk => hh (lexDelimiter_lex c k hk)) (fun h => hh (h ▸ lexColon_lex))
    (fun h => hh (h ▸ lexEscape_lex)) (fun h => lexEol_lex.error fun _ _ _ h' hc => h' ?_)
    (fun h => lexString_lex.error fun _ _ _ h' hc => h' ⟨hc.2, ?_⟩) (fun _ => hh (lexIdentifier_lex c))
    (hh (.fits (advance_head c) fun _ _ _ => .plain rfl))
  · rcases h with rfl | rfl
    · exact .inl hc.1
    · exact .inr hc.1
  · rw [isDelimiterStart_isSome, hc.1]
    rcases h with rfl | rfl | rfl <;> simp

theorem lexNormal_lex (c : Char) : Triple P (lexNormal c) EndsIdle (Fits (AtStart c)) :=
  .getBind fun s _ => .ite (fun _ => lexWhitespace_lex) fun _ => lexOther_lex s c

theorem lexInterpolation_lex (t : Tok) (c : Char) :
    Triple P (lexInterpolation t c) EndsIdle (Fits fun s => AtStart c s ∧ s.interp ≠ []) := by
  unfold lexInterpolation
  refine .getBind fun s _ => .ite (fun hp => ?_) fun _ => .ite (fun _ => .throw fun _ _ => rfl) fun _ =>
    (lexNormal_lex c).error fun _ _ _ h hc => h hc.1
  -- `}}`: pop the stack, which is part of the stack, and lex two characters that are there
  cases hint : s.interp with
  | nil => exact (Triple.thenNever fun _ => .thenNever fun _ => .fails).error fun _ _ h _ hc => absurd (h ▸ hint) hc.2
  | cons i below =>
    refine .seq (setFrame_spec _).total (fun s' h' => ?_) fun _ _ h0 =>
      (lexDouble_lex '}' '}' _).conseq (fun _ h => h) (fun _ _ _ _ h => h.1) fun _ _ h1 h _ => h (by rw [h1, h0]; exact hp)
    subst h'
    exact okInterp_iff.2 fun x hx => .inl (by rw [hint]; exact .tail _ hx)

theorem flushText_lex : Triple P flushText (fun s _ s' => s'.rest = s.rest ∧ (Inv src s → Idle s')) E :=
  .getBind fun _ _ => .ite (fun _ => fun _ h => ⟨h ▸ rfl, fun _ => ⟨rfl, rfl⟩⟩) fun hn => .pure fun _ h => ⟨h ▸ rfl, fun hi =>
    have hc := idle_of_offsets hi (Nat.eq_zero_of_not_pos (h ▸ hn))
    ⟨hc, offsets_of_idle hi hc⟩⟩

theorem pushInterpolation_lex : Triple P pushInterpolation (fun s _ s' => Idle s → Idle s') (Fits fun s => s.tokens ≠ []) := by
  unfold pushInterpolation
  refine .getBind fun s _ => ?_
  cases ht : s.tokens with
  | nil => exact .failWith fun _ h hc => absurd (h ▸ ht) hc
  | cons t ts =>
    refine ((setFrame_spec _).total.pre fun s' h' => ?_).post fun _ _ _ _ h => h ▸ id
    subst h'
    exact okInterp_iff.2 fun x hx => (List.mem_cons.1 hx).elim (fun h => .inr (by rw [ht, h]; rfl)) .inl

/-- the terminator the body scan stopped at is still there when it is lexed -/
theorem bodyTerminator_lex (t : Terminator) :
    Triple P (bodyTerminator t) (fun s _ s' => Idle s → Idle s') (Fits fun s => t.Heads s.rest) := by
  unfold bodyTerminator
  cases t with
  | endOfFile => exact .pure fun _ _ h => h
  | newline => exact (lexSingle_lex '\n' _).post fun _ _ _ _ h _ => h
  | newlineCarriageReturn => exact (lexDouble_lex '\r' '\n' _).post fun _ _ _ _ h _ => h.1
  | interpolation =>
    exact .bind (lexDouble_lex '{' '{' _) fun _ _ _ =>
      pushInterpolation_lex.conseq (fun _ h => h) (fun _ _ _ h h' _ => h' h.1) fun _ _ h h' _ => h' h.2

theorem lexBody_lex : Triple P lexBody (fun s _ s' => Inv src s → Idle s') (Fits C) := by
  unfold lexBody
  refine .getBind fun s _ => .bind (Q1 := fun s0 t s1 => t.Heads s1.rest ∧ (Inv src s0 → Inv src s1)) ?_ fun _ t _ =>
    .bind flushText_lex fun s1 _ h1 => (bodyTerminator_lex t).conseq (fun _ h => h)
      (fun _ _ _ h2 h3 hi => h3 (h2.2 (h1.2 hi))) fun _ _ h2 h _ => h (show t.Heads _ from h2.1 ▸ h1.1)
  exact triple_iff.2 ⟨fun _ _ _ h he => ⟨((bodyLoop_spec s.rest 0).ok (h ▸ rfl) he).2,
      fun hi => (((posSound src).bodyLoop _ _).ok hi he).1⟩,
    fun _ _ h he => ((bodyLoop_spec s.rest 0).err (h ▸ rfl) he).elim⟩

theorem dispatch_lex (c : Char) : Triple P (dispatch c) (fun s _ s' => Inv src s → Idle s') (Fits (AtStart c)) := by
  unfold dispatch
  refine .getBind fun s _ => ?_
  cases hi : s.interp with
  | cons i is =>
    exact (lexInterpolation_lex i c).conseq (fun _ h => h) (fun _ _ _ _ h _ => h) fun _ _ h h' hc => h' ⟨hc, by rw [h, hi]; simp⟩
  | nil => exact .ite (fun _ => lexBody_lex) fun _ => (lexNormal_lex c).post fun _ _ _ _ h _ => h

theorem EI.lexIdentifier : EI src lexIdentifier :=
  ⟨Preserves.lexIdentifier, fun _ _ _ _ he => ((lexIdentifier_lex (P := AnyState) 'a').ok trivial he).1⟩

theorem EI.dispatch (c : Char) : EI src (Lexer.dispatch c) :=
  ⟨Preserves.dispatch c, fun _ _ _ hs he => ((dispatch_lex (P := AnyState) c).ok trivial he hs).1⟩

theorem NI0.accepted (c : Char) : NI0 (Lexer.accepted c) := ⟨fun _ _ he => ((accepted_spec (P := AnyState) c).err trivial he).elim⟩
theorem NI0.advanceWhile (p : Char → Bool) : NI0 (Lexer.advanceWhile p) :=
  ⟨fun _ _ he => ((advanceWhile_spec (P := AnyState) p).err trivial he).elim⟩

theorem NIH.lexIdentifier : NIH (fun s => s.rest ≠ []) Lexer.lexIdentifier := by
  refine ⟨fun s e hs he => ?_⟩
  cases hr : s.rest with
  | nil => exact absurd hr hs
  | cons c _ => exact ErrKind.not_internal ((lexIdentifier_lex (P := AnyState) c).err trivial he (by simp [Head, hr]))

theorem NIH.dispatch (first : Char) : NIH (AtStart first) (Lexer.dispatch first) :=
  ⟨fun _ _ hs he => ErrKind.not_internal ((dispatch_lex (src := []) (P := AnyState) first).err trivial he hs)⟩

end Just.Lexer
