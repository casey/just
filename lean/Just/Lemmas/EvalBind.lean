/-
The evaluator of `Just.Model.Eval` read as a program in a state-and-error monad: `Res.bind`, and equations that write
`evalExpr` with it: one each for `.str`, `.var`, `.call`; `.backtick`, a leaf, has instead what its state can be
(`evalExpr_backtick_state`: unchanged, or outside a dry run the command logged); the eight constructors that only evaluate
operands (`+`, `/`, `&&`, `||`, `if`, `assert`, parentheses) share one, `evalExpr_operator`: on them `evalExpr` is `operate`,
written once with `bind` over whatever evaluates the operands.  Every statement about all expressions (at most once, dry
run, overrides) is proved from these, not from the `match`es of the definition: the operators by `Sequential.operate`
(what sequencing respects and the operands have, the operator has), the four other cases each on its own, with the two
rules for `bind` (`bind_state` for a property of the state, `bind_congr` for two continuations).
-/
import Just.Model.Eval
namespace Just.Eval

def Res.bind {α β : Type} (r : Res α) (k : St → α → Res β) : Res β :=
  match r with
  | (st, .error e) => (st, .error e)
  | (st, .ok a) => k st a

@[simp] theorem Res.bind_ok {α β : Type} (st : St) (a : α) (k : St → α → Res β) : Res.bind (st, .ok a) k = k st a := rfl

theorem Res.bind_state {α β : Type} {P : St → Prop} {r : Res α} {k : St → α → Res β} (h1 : P r.1)
    (h2 : ∀ st1 a, P st1 → P (k st1 a).1) : P (r.bind k).1 := by
  obtain ⟨st1, _ | a⟩ := r
  · exact h1
  · exact h2 st1 a h1

theorem Res.bind_congr {α β : Type} {P : St → Prop} {r : Res α} {k k' : St → α → Res β} (h1 : P r.1)
    (h2 : ∀ st1 a, P st1 → k st1 a = k' st1 a) : r.bind k = r.bind k' := by
  obtain ⟨st1, _ | a⟩ := r
  · rfl
  · exact h2 st1 a h1

def applyFn (ctx : Ctx) (fn : String) (st : St) (vs : List String) : Res String :=
  if fn = "shell" then
    match vs with
    | c :: _ =>
      match ctx.bt c with
      | some out => ({ st with log := st.log ++ [.bt c] }, .ok out)
      | none => ({ st with log := st.log ++ [.bt c] }, .error (.function fn "shell failed"))
    | [] => (st, .error (.unsupported fn))
  else
    match pureFn ctx fn vs with
    | some (.ok v) => (st, .ok v)
    | some (.error m) => (st, .error (.function fn m))
    | none => (st, .error (.unsupported fn))

theorem applyFn_state (ctx : Ctx) (fn : String) (st : St) (vs : List String) :
    (applyFn ctx fn st vs).1 = st ∨ fn = "shell" ∧ ∃ c, (applyFn ctx fn st vs).1 = { st with log := st.log ++ [.bt c] } := by
  fun_cases applyFn ctx fn st vs
  case case1 | case2 => exact .inr ⟨‹_›, _, rfl⟩  -- `shell` with a command
  all_goals exact .inl rfl

/-- the variable case of `evalExpr`, with the pending assignment of the name and its evaluation as parameters -/
def varCase (ctx : Ctx) (x : String) (st : St) (pending : Option Expr) (k : Expr → Res String) : Res String :=
  match lookupScope st x with
  | some v => (st, .ok v)
  | none =>
    if ctx.ownFirst then
      match pending with
      | some e => k e
      | none =>
        match ctx.parent x with
        | some v => (st, .ok v)
        | none => (st, .error (.undefinedVariable x))
    else
      match ctx.parent x with
      | some v => (st, .ok v)
      | none =>
        match pending with
        | some e => k e
        | none => (st, .error (.undefinedVariable x))

theorem varCase_cases (ctx : Ctx) (x : String) (st : St) (p : Option Expr) (k : Expr → Res String) :
    (∃ r, varCase ctx x st p k = (st, r)) ∨
      ∃ e, p = some e ∧ lookupScope st x = none ∧ varCase ctx x st p k = k e := by
  fun_cases varCase ctx x st p k
  case case2 | case6 => exact .inr ⟨_, rfl, ‹_›, rfl⟩  -- the pending assignment, in either lookup order
  all_goals exact .inl ⟨_, rfl⟩

theorem varCase_congr (ctx : Ctx) (x : String) (st : St) (p : Option Expr) {k k' : Expr → Res String}
    (h : ∀ e, p = some e → lookupScope st x = none → k e = k' e) : varCase ctx x st p k = varCase ctx x st p k' := by
  unfold varCase
  split
  · rfl
  · cases p with
    | none => rfl
    | some e => simp only [h e rfl ‹_›]

/-- the module's own assignment of `x`, if it is being evaluated -/
def pendingOf (assigns : Option (List (String × Expr))) (x : String) : Option Expr :=
  match assigns with
  | some as => as.lookup x
  | none => none

section equations
variable (ctx : Ctx) (as : Option (List (String × Expr))) (fuel : Nat) (st : St)

theorem evalExpr_zero (e : Expr) : evalExpr ctx as 0 e st = (st, .error .fuel) := by rw [evalExpr]
theorem evalExprs_zero (es : Exprs) : evalExprs ctx as 0 es st = (st, .error .fuel) := by rw [evalExprs]
theorem evalAssignment_zero (n : String) (e : Expr) : evalAssignment ctx as 0 n e st = (st, .error .fuel) := by
  rw [evalAssignment]

theorem evalExpr_str (s : String) : evalExpr ctx as (fuel + 1) (.str s) st = (st, .ok s) := by rw [evalExpr]

theorem evalExpr_var (x : String) : evalExpr ctx as (fuel + 1) (.var x) st =
    varCase ctx x st (pendingOf as x) fun e => evalAssignment ctx as fuel x e st := by
  simp only [evalExpr, varCase, pendingOf]
  -- the same tree of `match`es on both sides, but compiled apart: it is equal branch by branch
  cases lookupScope st x with
  | some v => rfl
  | none =>
    rcases as with _ | as
    · cases ctx.ownFirst <;> cases ctx.parent x <;> rfl
    · cases ctx.ownFirst <;> cases ctx.parent x <;> cases as.lookup x <;> rfl

theorem evalExpr_backtick_state (c : String) :
    (evalExpr ctx as (fuel + 1) (.backtick c) st).1 = st ∨
      ctx.dryRun = false ∧ (evalExpr ctx as (fuel + 1) (.backtick c) st).1 = { st with log := st.log ++ [.bt c] } := by
  rw [evalExpr]
  split
  · exact .inl rfl
  · split <;> exact .inr ⟨(Bool.not_eq_true _).mp ‹_›, rfl⟩

theorem evalExpr_call (fn : String) (args : Exprs) : evalExpr ctx as (fuel + 1) (.call fn args) st =
    (evalExprs ctx as fuel args st).bind (applyFn ctx fn) := by
  rw [evalExpr]; rcases evalExprs ctx as fuel args st with ⟨st1, _ | vs⟩ <;> rfl

theorem evalExprs_nil : evalExprs ctx as (fuel + 1) .nil st = (st, .ok []) := by rw [evalExprs]

theorem evalExprs_cons (e : Expr) (es : Exprs) : evalExprs ctx as (fuel + 1) (.cons e es) st =
    (evalExpr ctx as fuel e st).bind fun st1 v => (evalExprs ctx as fuel es st1).bind fun st2 vs => (st2, .ok (v :: vs)) := by
  rw [evalExprs]; rcases evalExpr ctx as fuel e st with ⟨st1, _ | v⟩
  · rfl
  · simp only [Res.bind_ok]; rcases evalExprs ctx as fuel es st1 with ⟨st2, _ | vs⟩ <;> rfl

theorem evalAssignment_of_bound (n : String) (e : Expr) (v : String) (h : lookupScope st n = some v) :
    evalAssignment ctx as (fuel + 1) n e st = (st, .ok v) := by
  rw [evalAssignment, h]

theorem evalAssignment_of_unbound (n : String) (e : Expr) (h : lookupScope st n = none) :
    evalAssignment ctx as (fuel + 1) n e st =
      (evalExpr ctx as fuel e { st with log := st.log ++ [.evalAssign n] }).bind fun st1 v =>
        ({ st1 with scope := (n, v) :: st1.scope }, .ok v) := by
  rw [evalAssignment, h]
  rcases evalExpr ctx as fuel e { st with log := st.log ++ [.evalAssign n] } with ⟨st1, _ | v⟩ <;> rfl

theorem evalAll_cons (as : List (String × Expr)) (n : String) (e : Expr) (rest : List (String × Expr)) :
    evalAll ctx as fuel ((n, e) :: rest) st =
      (evalAssignment ctx (some as) fuel n e st).bind fun st1 _ => evalAll ctx as fuel rest st1 := by
  rw [evalAll]; rcases evalAssignment ctx (some as) fuel n e st with ⟨st1, _ | v⟩ <;> rfl

end equations

/-! ### the operators

The eight constructors that only evaluate operands (`+`, `/`, `&&`, `||`, `if`, `assert`, parentheses) are one equation:
`evalExpr` on an operator is `operate`, which is written with `bind` over whatever evaluates the operands. -/

def operands : Expr → List Expr
  | .concat l r | .joinL l r | .and l r | .or l r => [l, r]
  | .joinR r | .group r => [r]
  | .cond a _ b t e => [a, b, t, e]
  | .assert a _ b m => [a, b, m]
  | _ => []

/-- what an operator does, given the evaluation `ev` of its operands -/
def operate (ev : Expr → St → Res String) : Expr → St → Res String
  | .concat l r, st => (ev l st).bind fun st1 a => (ev r st1).bind fun st2 b => (st2, .ok (a ++ b))
  | .joinL l r, st => (ev l st).bind fun st1 a => (ev r st1).bind fun st2 b => (st2, .ok (a ++ "/" ++ b))
  | .joinR r, st => (ev r st).bind fun st1 b => (st1, .ok ("/" ++ b))
  | .and l r, st => (ev l st).bind fun st1 a => if a = "" then (st1, .ok "") else ev r st1
  | .or l r, st => (ev l st).bind fun st1 a => if a ≠ "" then (st1, .ok a) else ev r st1
  | .cond a op b t e, st => (ev a st).bind fun st1 va => (ev b st1).bind fun st2 vb =>
      if evalCondOp op va vb then ev t st2 else ev e st2
  | .assert a op b m, st => (ev a st).bind fun st1 va => (ev b st1).bind fun st2 vb =>
      if evalCondOp op va vb then (st2, .ok "") else (ev m st2).bind fun st3 msg => (st3, .error (.assert msg))
  | .group e, st => ev e st
  | _, st => (st, .ok "")

theorem evalExpr_operator (ctx : Ctx) (as : Option (List (String × Expr))) (fuel : Nat) (st : St) {e : Expr}
    (he : operands e ≠ [] := by nofun) : evalExpr ctx as (fuel + 1) e st = operate (evalExpr ctx as fuel) e st := by
  cases e
  case concat l r | joinL l r | cond l _ r _ _ =>
    rw [evalExpr, operate]; rcases evalExpr ctx as fuel l st with ⟨st1, _ | a⟩
    · rfl
    · simp only [Res.bind_ok]; rcases evalExpr ctx as fuel r st1 with ⟨st2, _ | b⟩ <;> rfl
  case joinR l | and l _ | or l _ => rw [evalExpr, operate]; rcases evalExpr ctx as fuel l st with ⟨st1, _ | a⟩ <;> rfl
  case assert a _ b m =>
    rw [evalExpr, operate]; rcases evalExpr ctx as fuel a st with ⟨st1, _ | va⟩
    · rfl
    · simp only [Res.bind_ok]; rcases evalExpr ctx as fuel b st1 with ⟨st2, _ | vb⟩
      · rfl
      · simp only [Res.bind_ok]; split
        · rfl
        · rcases evalExpr ctx as fuel m st2 with ⟨st3, _ | msg⟩ <;> rfl
  case group e => rw [evalExpr, operate]
  all_goals exact absurd rfl he

/-- a relation between two runs from one state (a property of one run, if the second is ignored) that sequencing respects -/
structure Sequential (Φ : ∀ {α : Type}, St → Res α → Res α → Prop) : Prop where
  pure : ∀ {α : Type} (st : St) (x : Except Err α), Φ st (st, x) (st, x)
  bind : ∀ {α β : Type} {st : St} {r r' : Res α} {k k' : St → α → Res β}, Φ st r r' →
    (∀ st1 a, Φ st1 (k st1 a) (k' st1 a)) → Φ st (r.bind k) (r'.bind k')

/-- an operator does nothing but evaluate operands, one after the other, and not all of them: whatever sequencing
respects and the operands' evaluations have, the operator's evaluation has -/
theorem Sequential.operate {Φ : ∀ {α : Type}, St → Res α → Res α → Prop} (hΦ : Sequential Φ) {ev : Expr → St → Res String}
    (ev' : Expr → St → Res String) {e : Expr} (h : ∀ s ∈ operands e, ∀ st, Φ st (ev s st) (ev' s st)) (st : St) :
    Φ st (operate ev e st) (operate ev' e st) := by
  cases e <;> simp only [operands, List.forall_mem_cons, List.not_mem_nil, false_imp_iff, implies_true, and_true] at h <;>
    simp only [Eval.operate]
  case concat | joinL => exact hΦ.bind (h.1 st) fun st1 _ => hΦ.bind (h.2 st1) fun _ _ => hΦ.pure ..
  case joinR => exact hΦ.bind (h st) fun _ _ => hΦ.pure ..
  case and | or =>
    refine hΦ.bind (h.1 st) fun st1 _ => ?_
    split
    · exact hΦ.pure ..
    · exact h.2 st1
  case cond =>
    refine hΦ.bind (h.1 st) fun st1 _ => hΦ.bind (h.2.1 st1) fun st2 _ => ?_
    split
    · exact h.2.2.1 st2
    · exact h.2.2.2 st2
  case assert =>
    refine hΦ.bind (h.1 st) fun st1 _ => hΦ.bind (h.2.1 st1) fun st2 _ => ?_
    split
    · exact hΦ.pure ..
    · exact hΦ.bind (h.2.2 st2) fun _ _ => hΦ.pure ..
  case group => exact h st
  all_goals exact hΦ.pure ..

theorem operands_vars {e s : Expr} (hs : s ∈ operands e) : ∀ x ∈ s.vars, x ∈ e.vars := by
  cases e <;> simp only [operands, List.mem_cons, List.not_mem_nil, or_false] at hs <;>
    simp only [Expr.vars, List.mem_append] <;> grind

end Just.Eval
