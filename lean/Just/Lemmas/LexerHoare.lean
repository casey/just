import Just.Lemmas.LexerCases
/-
One Hoare triple for the lexer monad.  `Triple P m Q E`: run from a state satisfying `P`, the action
`m` either succeeds, and then `Q s a s'` relates the start state, the result and the end state, or
fails with an error satisfying `E`.  `E = NoFail` is total correctness.  The rules walk through a
`do` block forwards: what is known of the states passed so far stays in the context.
-/
namespace Just.Lexer

variable {α β : Type} {P P' : St → Prop} {Q Q' : St → α → St → Prop} {E E' : St → Err → Prop}

def Meets (Q : α → St → Prop) (E : Err → Prop) : Except Err (α × St) → Prop
  | .ok (a, s') => Q a s'
  | .error e => E e

theorem Meets.imp {Q Q' : α → St → Prop} {F F' : Err → Prop} {r : Except Err (α × St)} (hq : ∀ a s, Q a s → Q' a s)
    (he : ∀ e, F e → F' e) (h : Meets Q F r) : Meets Q' F' r := by
  rcases r with e | ⟨a, s⟩
  · exact he e h
  · exact hq a s h

theorem Meets.and {Q Q' : α → St → Prop} {F F' : Err → Prop} {r : Except Err (α × St)} (h : Meets Q F r)
    (h' : Meets Q' F' r) : Meets (fun a s => Q a s ∧ Q' a s) (fun e => F e ∧ F' e) r := by
  rcases r with e | ⟨a, s⟩ <;> exact ⟨h, h'⟩

theorem meets_bind {x : M α} {f : α → M β} {s : St} {Q : β → St → Prop} {F : Err → Prop} :
    Meets Q F ((x >>= f) s) ↔ Meets (fun a s' => Meets Q F (f a s')) F (x s) := by
  show Meets Q F (x s >>= fun p => f p.1 p.2) ↔ _
  rcases x s with e | ⟨a, s'⟩ <;> exact Iff.rfl

def Triple (P : St → Prop) (m : M α) (Q : St → α → St → Prop) (E : St → Err → Prop) : Prop :=
  ∀ s, P s → Meets (Q s) (E s) (m s)

abbrev NoFail : St → Err → Prop := fun _ _ => False
abbrev AnyErr : St → Err → Prop := fun _ _ => True
abbrev AnyState : St → Prop := fun _ => True
abbrev AnyEnd : St → α → St → Prop := fun _ _ _ => True

theorem Triple.ok {m : M α} (h : Triple P m Q E) {s : St} {a : α} {s' : St} (hs : P s) (he : m s = .ok (a, s')) :
    Q s a s' := by
  have := h s hs; rwa [he] at this

theorem Triple.err {m : M α} (h : Triple P m Q E) {s : St} {e : Err} (hs : P s) (he : m s = .error e) : E s e := by
  have := h s hs; rwa [he] at this

theorem triple_iff {m : M α} : Triple P m Q E ↔
    (∀ s a s', P s → m s = .ok (a, s') → Q s a s') ∧ (∀ s e, P s → m s = .error e → E s e) :=
  ⟨fun h => ⟨fun _ _ _ hs he => h.ok hs he, fun _ _ hs he => h.err hs he⟩, fun ⟨h1, h2⟩ s hs => by
    cases he : m s with
    | ok p => exact h1 s p.1 p.2 hs he
    | error e => exact h2 s e hs he⟩

theorem Triple.conseq {m : M α} (h : Triple P m Q E) (hp : ∀ s, P' s → P s)
    (hq : ∀ s a s', P' s → Q s a s' → Q' s a s') (he : ∀ s e, P' s → E s e → E' s e) : Triple P' m Q' E' :=
  fun s hs => (h s (hp s hs)).imp (fun a s' => hq s a s' hs) fun e => he s e hs

theorem Triple.pre {m : M α} (h : Triple P m Q E) (hp : ∀ s, P' s → P s) : Triple P' m Q E :=
  h.conseq hp (fun _ _ _ _ h => h) (fun _ _ _ h => h)

theorem Triple.post {m : M α} (h : Triple P m Q E) (hq : ∀ s a s', P s → Q s a s' → Q' s a s') : Triple P m Q' E :=
  h.conseq (fun _ h => h) hq (fun _ _ _ h => h)

theorem Triple.total {m : M α} (h : Triple P m Q NoFail) : Triple P m Q E :=
  h.conseq (fun _ h => h) (fun _ _ _ _ h => h) (fun _ _ _ h => h.elim)

theorem Triple.safe {m : M α} (h : Triple P m Q NoFail) : Triple P m AnyEnd E :=
  h.conseq (fun _ h => h) (fun _ _ _ _ _ => trivial) (fun _ _ _ h => h.elim)

theorem Triple.error {m : M α} (h : Triple P m Q E) (he : ∀ s e, P s → E s e → E' s e) : Triple P m Q E' :=
  h.conseq (fun _ h => h) (fun _ _ _ _ h => h) he

theorem Triple.and {m : M α} (h : Triple P m Q E) (h' : Triple P' m Q' E') :
    Triple (fun s => P s ∧ P' s) m (fun s a s' => Q s a s' ∧ Q' s a s') (fun s e => E s e ∧ E' s e) :=
  fun s hs => (h s hs.1).and (h' s hs.2)

theorem Triple.pure {a : α} (h : ∀ s, P s → Q s a s) : Triple P (pure a : M α) Q E := h

/-- the rest of the block is run from what the first action guarantees; `s` stays the start state -/
theorem Triple.bind {x : M α} {f : α → M β} {Q1 : St → α → St → Prop} {Q : St → β → St → Prop}
    (hx : Triple P x Q1 E) (hf : ∀ s a, P s → Triple (Q1 s a) (f a) (fun _ => Q s) (fun _ => E s)) :
    Triple P (x >>= f) Q E :=
  fun s hs => meets_bind.2 ((hx s hs).imp (fun a s' h1 => hf s a hs s' h1) fun _ h => h)

theorem Triple.seq {x : M α} {f : α → M β} {Px : St → Prop} {Q1 : St → α → St → Prop} {Q : St → β → St → Prop}
    (hx : Triple Px x Q1 E) (hp : ∀ s, P s → Px s)
    (hf : ∀ s a, P s → Triple (Q1 s a) (f a) (fun _ => Q s) (fun _ => E s)) :
    Triple P (x >>= f) Q E :=
  Triple.bind (hx.pre hp) hf

theorem Triple.getBind {f : St → M β} {Q : St → β → St → Prop}
    (hf : ∀ s, P s → Triple (fun s' => s' = s) (f s) Q E) : Triple P (get >>= f) Q E :=
  fun s hs => hf s hs s rfl

theorem Triple.ite {c : Prop} [Decidable c] {x y : M α} (hx : c → Triple P x Q E) (hy : ¬c → Triple P y Q E) :
    Triple P (if c then x else y) Q E :=
  ite_elim (P := fun m => Triple P m Q E) hx hy

theorem Triple.failWith {e : St → Err} (h : ∀ s, P s → E s (e s)) : Triple P (failWith e : M α) Q E := h

theorem Triple.throw {e : Err} (h : ∀ s, E s e) : Triple P (throw e : M α) Q E := fun s _ => h s

theorem Triple.thenNever {x : M α} {f : α → M β} {Q : St → β → St → Prop}
    (hf : ∀ a, Triple AnyState (f a) (fun _ _ _ => False) AnyErr) : Triple P (x >>= f) Q AnyErr :=
  fun s _ => meets_bind.2 (by
    rcases x s with _ | ⟨a, s'⟩
    · trivial
    · exact (hf a s' trivial).imp (Q' := Q s) (fun _ _ => False.elim) fun _ h => h)

theorem Triple.fails {e : St → Err} : Triple P (Lexer.failWith e : M α) Q AnyErr := fun _ _ => trivial

/-! ### what the primitives do -/

structure Same (s s' : St) : Prop where
  interp : s'.interp = s.interp
  tokens : s'.tokens = s.tokens
  indentation : s'.indentation = s.indentation
  delims : s'.delims = s.delims

structure Fed (l : List Char) (s s' : St) : Prop where
  rest : s.rest = l ++ s'.rest
  cur : s'.cur = l.reverse ++ s.cur
  same : Same s s'

theorem Fed.refl (s : St) : Fed [] s s := ⟨rfl, rfl, rfl, rfl, rfl, rfl⟩

theorem Fed.trans {l l' : List Char} {s s' s'' : St} (h : Fed l s s') (h' : Fed l' s' s'') : Fed (l ++ l') s s'' :=
  ⟨by rw [h.rest, h'.rest, List.append_assoc], by rw [h'.cur, h.cur, List.reverse_append, List.append_assoc],
   h'.same.interp.trans h.same.interp, h'.same.tokens.trans h.same.tokens,
   h'.same.indentation.trans h.same.indentation, h'.same.delims.trans h.same.delims⟩

theorem Fed.rest_eq {l r : List Char} {s s' : St} (h : Fed l s s') (hr : s.rest = l ++ r) : s'.rest = r :=
  (List.append_cancel_left (hr.symm.trans h.rest)).symm

theorem Fed.length {l : List Char} {s s' : St} (h : Fed l s s') : s.rest.length = l.length + s'.rest.length := by
  rw [h.rest, List.length_append]

theorem advance_any : Triple P advance (fun s _ s' => ∃ c, Fed [c] s s')
    (fun s e => s.rest = [] ∧ e = internalError "Lexer advanced past end of text" s) := by
  intro s _
  cases hr : s.rest with
  | nil => simp only [advance, hr]; exact ⟨trivial, rfl⟩
  | cons c cs => simp only [advance, hr]; exact ⟨c, by simp [hr], by simp, rfl, rfl, rfl, rfl⟩

theorem advance_spec (c : Char) :
    Triple (fun s => s.rest.head? = some c) advance (fun s _ s' => Fed [c] s s') NoFail :=
  advance_any.conseq (fun _ h => h)
    (fun s _ _ hs ⟨d, h⟩ => by
      obtain rfl : d = c := by simpa [h.rest] using hs
      exact h)
    fun _ _ hs h => by simp [h.1] at hs

theorem advance_head (c : Char) : Triple P advance AnyEnd (fun s _ => s.rest.head? ≠ some c) :=
  advance_any.conseq (fun _ h => h) (fun _ _ _ _ _ => trivial) fun _ _ _ h => by simp [h.1]

theorem setFrame_any (f : St → Frame) : Triple P (setFrame f) (fun s _ s' => s' = s.setFrame (f s))
    (fun s e => okInterp s (f s) = false ∧ e = internalError "interpolation stack" s) := by
  intro s _
  by_cases h : okInterp s (f s) = true <;> simp only [setFrame, h, if_true, Bool.false_eq_true, if_false]
  · rfl
  · exact ⟨by simp, rfl⟩

theorem setFrame_spec (f : St → Frame) :
    Triple (fun s => okInterp s (f s) = true) (setFrame f) (fun s _ s' => s' = s.setFrame (f s)) NoFail :=
  (setFrame_any f).error fun _ _ hs h => by simp [hs] at h

theorem presume_any (c : Char) :
    Triple P (presume c) (fun s _ s' => Fed [c] s s') (fun s _ => s.rest.head? ≠ some c) := by
  unfold presume
  exact .getBind fun s _ => .ite (fun h => (advance_spec c).total.pre fun _ h' => by simpa [nextIs, h'] using h)
    fun h => .failWith fun _ h' => by simpa [nextIs, h'] using h

theorem presume_spec (c : Char) :
    Triple (fun s => s.rest.head? = some c) (presume c) (fun s _ s' => Fed [c] s s') NoFail :=
  (presume_any c).conseq (fun _ h => h) (fun _ _ _ _ h => h) fun _ _ hs h => h hs

theorem accepted_spec (c : Char) : Triple P (accepted c)
    (fun s b s' => (b = true → Fed [c] s s') ∧ (b = false → s' = s ∧ nextIs s c = false)) NoFail := by
  unfold accepted
  refine .getBind fun s _ => .ite (fun hn => ?_) fun hn => .pure fun s' h => ⟨nofun, fun _ => ⟨rfl, by simpa [h] using hn⟩⟩
  exact .seq (advance_spec c) (fun s' h => by simpa [nextIs, h] using hn) fun _ _ _ => .pure fun _ h => ⟨fun _ => h, nofun⟩

/-- the step of the scanning loops: the next character is consumed, then the loop goes on with the rest of the text -/
theorem Fed.andThen {c : Char} {cs : List Char} {x : M Unit} {f : M β} {R Q : St → β → St → Prop}
    (hx : Triple (fun s => s.rest.head? = some c) x (fun s _ s' => Fed [c] s s') NoFail)
    (hf : Triple (fun s => s.rest = cs) f R E') (hq : ∀ s s1 b s', Fed [c] s s1 → R s1 b s' → Q s b s')
    (he : ∀ s s1 e, Fed [c] s s1 → E' s1 e → E s e) : Triple (fun s => s.rest = c :: cs) (do x; f) Q E :=
  .seq hx.total (fun s hs => by simp [hs]) fun s _ hs =>
    hf.conseq (fun _ h => h.rest_eq hs) (fun s1 b s' h => hq s s1 b s' h) fun s1 e h => he s s1 e h

theorem presumeStr_spec (l : List Char) :
    Triple (fun s => ∃ r, s.rest = l ++ r) (presumeStr l) (fun s _ s' => Fed l s s') NoFail := by
  induction l with
  | nil => exact .pure fun s _ => Fed.refl s
  | cons c l ih =>
    exact fun s ⟨r, hr⟩ =>
      Fed.andThen (presume_spec c) (ih.pre fun _ h => ⟨r, h⟩) (fun _ _ _ _ h h' => h.trans h') (fun _ _ _ _ h => h) s hr

theorem advanceN_spec (l r : List Char) :
    Triple (fun s => s.rest = l ++ r) (advanceN l.length) (fun s _ s' => Fed l s s') NoFail := by
  induction l with
  | nil => exact .pure fun s _ => Fed.refl s
  | cons c l ih => exact Fed.andThen (advance_spec c) ih (fun _ _ _ _ h h' => h.trans h') fun _ _ _ _ h => h

theorem advanceWhileAux_spec (p : Char → Bool) (cs : List Char) :
    Triple (fun s => s.rest = cs) (advanceWhileAux p cs) (fun s _ s' => Fed (cs.takeWhile p) s s') NoFail := by
  induction cs with
  | nil => exact .pure fun s _ => Fed.refl s
  | cons c cs ih =>
    unfold advanceWhileAux
    refine .ite (fun hp => ?_) fun hp => .pure fun s _ => by simpa [List.takeWhile_cons, hp] using Fed.refl s
    rw [List.takeWhile_cons_of_pos hp]
    exact Fed.andThen (advance_spec c) ih (fun _ _ _ _ h h' => h.trans h') fun _ _ _ _ h => h

theorem advanceWhile_spec (p : Char → Bool) :
    Triple P (advanceWhile p) (fun s _ s' => Fed (s.rest.takeWhile p) s s') NoFail :=
  .getBind fun s _ => (advanceWhileAux_spec p s.rest).conseq (fun _ h => h ▸ rfl) (fun _ _ _ h h' => h ▸ h') fun _ _ _ h => h

theorem advanceToEolAux_spec (cs : List Char) : Triple (fun s => s.rest = cs) (advanceToEolAux cs) AnyEnd NoFail := by
  induction cs with
  | nil => exact .pure fun _ _ => trivial
  | cons c cs ih =>
    unfold advanceToEolAux
    exact .ite (fun _ => .pure fun _ _ => trivial) fun _ => Fed.andThen (advance_spec c) ih (fun _ _ _ _ _ _ => trivial) fun _ _ _ _ h => h

/-! ### the body scan -/

def Terminator.Heads : Terminator → List Char → Prop
  | .endOfFile, r => r = []
  | .newline, r => r.head? = some '\n'
  | .newlineCarriageReturn, r => ['\r', '\n'].isPrefixOf r = true
  | .interpolation, r => ['{', '{'].isPrefixOf r = true

theorem Terminator.heads_crlf {c : Char} {cs : List Char} (h : (c = '\r' && cs.head? = some '\n') = true) :
    Terminator.newlineCarriageReturn.Heads (c :: cs) := by
  cases cs <;> simp_all [Terminator.Heads]

theorem bodyLoop_spec (cs : List Char) (k : Nat) :
    Triple (fun s => s.rest = cs) (bodyLoop cs k) (fun s t s' => (∃ l, Fed l s s') ∧ t.Heads s'.rest) NoFail := by
  induction cs generalizing k with
  | nil => exact .pure fun s hs => ⟨⟨[], Fed.refl s⟩, hs⟩
  | cons c cs ih =>
    have step : ∀ k', Triple (fun s => s.rest = c :: cs) (do advance; bodyLoop cs k')
        (fun s t s' => (∃ l, Fed l s s') ∧ t.Heads s'.rest) NoFail := fun k' =>
      Fed.andThen (advance_spec c) (ih k') (fun _ _ _ _ h ⟨⟨_, h'⟩, ht⟩ => ⟨⟨_, h.trans h'⟩, ht⟩) fun _ _ _ _ h => h
    have stop : ∀ t : Terminator, t.Heads (c :: cs) → Triple (fun s => s.rest = c :: cs) (Pure.pure t)
        (fun s t s' => (∃ l, Fed l s s') ∧ t.Heads s'.rest) NoFail :=
      fun t ht => .pure fun s hs => ⟨⟨[], Fed.refl s⟩, hs ▸ ht⟩
    unfold bodyLoop
    exact .ite (fun _ => step _) fun _ => .ite (fun _ => step 3) fun _ =>
      .ite (fun h => stop .newline (by simp [Terminator.Heads, h])) fun _ =>
      .ite (fun h => stop .newlineCarriageReturn (Terminator.heads_crlf h)) fun _ =>
      .ite (fun h => stop .interpolation h) fun _ => step 0

end Just.Lexer
