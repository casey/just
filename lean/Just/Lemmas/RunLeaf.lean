/-
What expression evaluation, parameter binding, recipe bodies and module assignments can do, said
once (`LeafRun`): they emit only "leaf" events (backticks, echoes, spawns, scripts; never a prompt
or a body label); under `--dry-run` only echoes; and when they fail, the error is `internal` or the
status of the command their last event started.  The invariant is closed under `andThen`, so each
function needs one short lemma; "no body label", "never out of fuel", "stops at the failing
command" and "a dry run executes nothing" are read off it.
-/
import Just.Lemmas.RunSeq

-- C02 states fail-stop with `cmdOf` and `EndsFailed`; they stand here because `LeafRun.fails` is said with them
namespace Just.Props.C02
open Just.Run

def cmdOf : Ev → Option String
  | .bt c => some c
  | .spawn _ _ c => some c
  | .script _ _ t => some t
  | _ => none

def EndsFailed (env : Env) (es : List Ev) (e : Err) : Prop :=
  ∃ pre ev c, es = pre ++ [ev] ∧ cmdOf ev = some c ∧ (env.status c).toErr = some e

theorem EndsFailed.prepend {env : Env} {es : List Ev} {e : Err} (p : List Ev)
    (h : EndsFailed env es e) : EndsFailed env (p ++ es) e := by
  obtain ⟨pre, ev, c, hes, hc, hs⟩ := h
  exact ⟨p ++ pre, ev, c, by rw [hes, List.append_assoc], hc, hs⟩

end Just.Props.C02

namespace Just.Run
open Just.Props.C02

def Leaf (es : List Ev) : Prop := ∀ e ∈ es, e.isLeaf = true

theorem Leaf.nil : Leaf [] := by intro e h; cases h

theorem Leaf.append {a b : List Ev} (ha : Leaf a) (hb : Leaf b) : Leaf (a ++ b) := by
  intro e h
  rcases List.mem_append.mp h with h | h
  · exact ha e h
  · exact hb e h

def Echoes (es : List Ev) : Prop := ∀ ev ∈ es, ∃ t, ev = .echo t

theorem Echoes.leaf {es : List Ev} (h : Echoes es) : Leaf es := by
  intro ev hev; obtain ⟨t, rfl⟩ := h ev hev; rfl

theorem Echoes.ite (c : Prop) [Decidable c] {es : List Ev} (h : Echoes es) : Echoes (if c then es else []) := by
  split
  · exact h
  · intro _ h; cases h

theorem echoes_single (t : String) : Echoes [.echo t] := by
  intro ev h; exact ⟨t, List.mem_singleton.mp h⟩

theorem echoes_map (ts : List String) : Echoes (ts.map .echo) := by
  intro ev h; obtain ⟨t, _, rfl⟩ := List.mem_map.mp h; exact ⟨t, rfl⟩

structure LeafRun (cfg : Cfg) (env : Env) {α : Type} (x : Res α) : Prop where
  leaf : Leaf x.1
  dry : cfg.dryRun = true → Echoes x.1
  fails : ∀ e, x.2 = .error e → e = .internal ∨ EndsFailed env x.1 e

variable {cfg : Cfg} {env : Env}

theorem LeafRun.echo {α : Type} {es : List Ev} (h : Echoes es) (a : α) : LeafRun cfg env (es, .ok a) :=
  ⟨h.leaf, fun _ => h, fun _ h => by cases h⟩

theorem LeafRun.pure {α : Type} (a : α) : LeafRun cfg env ([], .ok a) :=
  .echo (fun _ h => by cases h) a

theorem LeafRun.internal {α : Type} : LeafRun cfg env (([], .error .internal) : Res α) :=
  ⟨Leaf.nil, fun _ _ h => (nomatch h), fun _ h => by cases h; exact .inl rfl⟩

theorem LeafRun.exec {α : Type} {ev : Ev} {c : String} (hd : ¬cfg.dryRun = true) (hl : ev.isLeaf = true)
    (hc : cmdOf ev = some c) (stop : Bool) (a : α) : LeafRun cfg env (execEv env ev c stop a) := by
  have hl' : Leaf [ev] := fun _ h => by rw [List.mem_singleton.mp h]; exact hl
  unfold execEv
  cases hs : (env.status c).toErr with
  | none => exact ⟨hl', fun h => absurd h hd, fun _ h => by cases h⟩
  | some e =>
    refine ⟨hl', fun h => absurd h hd, fun e' h => ?_⟩
    cases stop
    · cases h
    · cases h; exact .inr ⟨[], ev, c, rfl, hc, hs⟩

theorem LeafRun.andThen {α β : Type} {x : Res α} {f : List Ev → α → Res β} (hx : LeafRun cfg env x)
    (hf : ∀ e a, LeafRun cfg env (f e a)) : LeafRun cfg env (andThen x f) := by
  obtain ⟨e1, e | a⟩ := x <;> simp only [andThen_error, andThen_ok]
  · exact ⟨hx.leaf, hx.dry, fun e' h => hx.fails e' (by cases h; rfl)⟩
  · have h2 := hf e1 a
    exact ⟨hx.leaf.append h2.leaf,
      fun hd ev h => (List.mem_append.mp h).elim (hx.dry hd ev) (h2.dry hd ev),
      fun e h => (h2.fails e h).imp id (·.prepend e1)⟩

theorem LeafRun.ite {α : Type} (c : Prop) [Decidable c] {x y : Res α} (hx : LeafRun cfg env x)
    (hy : LeafRun cfg env y) : LeafRun cfg env (if c then x else y) := by
  split <;> assumption

theorem leafRun_of_eq {α : Type} {x : Res α} {es : List Ev} {res : Except Err α} (h : x = (es, res))
    (hx : LeafRun cfg env x) : LeafRun cfg env (es, res) := h ▸ hx

theorem evalA_leafRun (ps : Args) (a : AExpr) : LeafRun cfg env (evalA cfg env ps a) := by
  induction a with
  | lit s => exact .pure s
  | param i =>
    simp only [evalA]
    split
    · exact .pure _
    · exact .internal
  | cat a b iha ihb => rw [evalA_cat]; exact iha.andThen fun _ _ => ihb.andThen fun _ _ => .pure _
  | bt c =>
    rw [evalA_bt]
    split
    · exact .pure _
    · exact .exec ‹_› rfl rfl true _

theorem evalList_leafRun (ps : Args) (as : List AExpr) : LeafRun cfg env (evalList cfg env ps as) := by
  induction as with
  | nil => exact .pure []
  | cons a as ih =>
    rw [evalList_cons]; exact (evalA_leafRun ps a).andThen fun _ _ => ih.andThen fun _ _ => .pure _

theorem bindParams_leafRun (params : List (Option AExpr)) (ws bound : Args) :
    LeafRun cfg env (bindParams cfg env params ws bound) := by
  induction params generalizing ws bound with
  | nil => exact .pure bound
  | cons p params ih =>
    cases ws with
    | cons w ws => simp only [bindParams]; exact ih ws _
    | nil =>
      cases p with
      | none => exact .internal
      | some d => rw [bindParams_default]; exact (evalA_leafRun bound d).andThen fun _ _ => ih [] _

theorem runCmd_leafRun (ri : Nat) (r : Recipe) (given : Args) (l : Line) (cmd : String) :
    LeafRun cfg env (runCmd cfg env ri r given l cmd) := by
  rw [runCmd_eq]
  refine (LeafRun.echo ((echoes_single cmd).ite _) ()).andThen fun _ _ => ?_
  split
  · exact .pure ()
  · exact .exec ‹_› rfl rfl _ ()

theorem runLines_leafRun (ri : Nat) (r : Recipe) (given ps : Args) (ls : List Line) :
    LeafRun cfg env (runLines cfg env ri r given ps ls) := by
  induction ls with
  | nil => exact .pure ()
  | cons l ls ih =>
    rw [runLines_cons]
    exact (evalList_leafRun ps l.frags).andThen fun _ _ =>
      .ite _ ih ((runCmd_leafRun ri r given l _).andThen fun _ _ => ih)

theorem evalLines_leafRun (ps : Args) (ls : List Line) : LeafRun cfg env (evalLines cfg env ps ls) := by
  induction ls with
  | nil => exact .pure []
  | cons l ls ih =>
    rw [evalLines_cons]; exact (evalList_leafRun ps l.frags).andThen fun _ _ => ih.andThen fun _ _ => .pure _

theorem runBody_leafRun (ri : Nat) (r : Recipe) (given ps : Args) :
    LeafRun cfg env (runBody cfg env ri r given ps) := by
  unfold runBody
  split
  · rw [runScript_eq]
    unfold scriptTail
    refine (evalLines_leafRun ps r.body).andThen fun _ lines =>
      (LeafRun.echo ((echoes_map lines).ite _) ()).andThen fun _ _ => ?_
    split
    · exact .pure ()
    · exact .exec ‹_› rfl rfl _ ()
  · exact runLines_leafRun ri r given ps r.body

theorem runAssigns_leafRun (cs : List String) : LeafRun cfg env (runAssigns cfg env cs) := by
  induction cs with
  | nil => exact .pure ()
  | cons c cs ih => rw [runAssigns_cons]; exact (evalA_leafRun [] _).andThen fun _ _ => ih

end Just.Run
