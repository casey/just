/-
Lemmas about `Just.Listing.publicGroups` (`Justfile::public_groups`): sorting and keeping first occurrences
neither lose nor invent a name.
-/
import Just.Model.Listing
import Just.Lemmas.Insert
namespace Just.Listing

theorem insertStr_by : InsertsBy (· < ·) insertStr := ⟨fun _ => rfl, fun _ _ _ => rfl⟩

theorem mem_sortStr (x : String) (l : List String) : x ∈ sortStr l ↔ x ∈ l :=
  (insertStr_by.foldr_perm l).mem_iff

theorem mem_dedupAux (x : String) (l seen : List String) : x ∈ dedupAux seen l ↔ x ∈ l ∧ x ∉ seen := by
  fun_induction dedupAux seen l <;> grind

theorem nodup_dedupAux (l seen : List String) : (dedupAux seen l).Nodup := by
  fun_induction dedupAux seen l <;> simp_all [mem_dedupAux]

def Ascending (l : List String) : Prop := l.Pairwise (fun a b => ¬ b < a)

theorem sortStr_ascending (l : List String) : Ascending (sortStr l) :=
  insertStr_by.foldr_pairwise (fun _ _ => String.lt_asymm) (fun _ _ _ => String.lt_trans) l

theorem dedupAux_sublist (l seen : List String) : (dedupAux seen l).Sublist l := by
  fun_induction dedupAux seen l <;> simp_all

end Just.Listing
