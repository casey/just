import Just.Model.Syntax
/-
The grammar the expression parser implements, as one relation over the seven kinds of phrase: `Parses p ts x r` says
that the parsing function for `p`, given `ts`, reads `x` and leaves `r`.  A rule is one successful path through the
corresponding function of Model/Syntax.lean; a side condition `∀ r', ts ≠ t :: r'` (`ts` does not begin with `t`, in the form the
equations of a `match` ask for) records a branch tried before it.
-/
namespace Just.Syntax
open Just

inductive Phrase where
  | value | conjunct | disjunct | expression | condition | conditional | sequence

abbrev Phrase.Res : Phrase → Type
  | .condition => Expr × CondOp × Expr
  | .sequence => Exprs
  | _ => Expr

def parse : (p : Phrase) → Nat → List Tk → Option (p.Res × List Tk)
  | .value => parseValue
  | .conjunct => parseConjunct
  | .disjunct => parseDisjunct
  | .expression => parseExpression
  | .condition => parseCondition
  | .conditional => parseConditional
  | .sequence => parseSequence

open Phrase in
inductive Parses : (p : Phrase) → List Tk → p.Res → List Tk → Prop
  | str (s r) : Parses value (.str s :: r) (Expr.str s) r
  | bt (s r) : Parses value (.bt s :: r) (Expr.backtick s) r
  | strAdj (s r) : Parses value (.strAdj s :: r) (Expr.str s) r
  | xLit (s r) : Parses value (.ident "x" :: .strAdj s :: r) (Expr.str (xLit s)) r
  | assert {r1 a o b r3 m r5} : Parses condition r1 (a, o, b) (.comma :: r3) → Parses expression r3 m (.rparen :: r5) →
      Parses value (.ident "assert" :: .lparen :: r1) (Expr.assert a o b m) r5
  | call {n r args r'} : n ≠ "assert" → Parses sequence r args r' → fnOk n args.length = true →
      Parses value (.ident n :: .lparen :: r) (Expr.call n args) r'
  | var {n r} : n ≠ "assert" → (∀ s r', r = .strAdj s :: r' → n ≠ "x") → (∀ r', r ≠ .lparen :: r') →
      Parses value (.ident n :: r) (Expr.var n) r
  | group {r e r2} : Parses expression r e (.rparen :: r2) → Parses value (.lparen :: r) (Expr.group e) r2
  | cond {ts e r} : Parses conditional ts e r → Parses conjunct (.ident "if" :: ts) e r
  | joinR {ts x r} : Parses conjunct ts x r → Parses conjunct (.slash :: ts) (Expr.joinR x) r
  | joinL {ts v ts2 x r} : (∀ r', ts ≠ .ident "if" :: r') → (∀ r', ts ≠ .slash :: r') →
      Parses value ts v (.slash :: ts2) → Parses conjunct ts2 x r → Parses conjunct ts (Expr.joinL v x) r
  | concat {ts v ts2 x r} : (∀ r', ts ≠ .ident "if" :: r') → (∀ r', ts ≠ .slash :: r') →
      Parses value ts v (.plus :: ts2) → Parses conjunct ts2 x r → Parses conjunct ts (Expr.concat v x) r
  | value {ts v r} : (∀ r', ts ≠ .ident "if" :: r') → (∀ r', ts ≠ .slash :: r') →
      Parses value ts v r → (∀ r', r ≠ .slash :: r') → (∀ r', r ≠ .plus :: r') → Parses conjunct ts v r
  | and {ts c ts2 x r} : Parses conjunct ts c (.andand :: ts2) → Parses disjunct ts2 x r → Parses disjunct ts (Expr.and c x) r
  | conjunct {ts c r} : Parses conjunct ts c r → (∀ r', r ≠ .andand :: r') → Parses disjunct ts c r
  | or {ts d ts2 x r} : Parses disjunct ts d (.barbar :: ts2) → Parses expression ts2 x r → Parses expression ts (Expr.or d x) r
  | disjunct {ts d r} : Parses disjunct ts d r → (∀ r', r ≠ .barbar :: r') → Parses expression ts d r
  | elseIf {ts a o b ts2 t ts4 e r} : Parses condition ts (a, o, b) (.lbrace :: ts2) →
      Parses expression ts2 t (.rbrace :: .ident "else" :: .ident "if" :: ts4) → Parses conditional ts4 e r →
      Parses conditional ts (Expr.cond a o b t e) r
  | elseBlock {ts a o b ts2 t ts4 e r} : Parses condition ts (a, o, b) (.lbrace :: ts2) →
      Parses expression ts2 t (.rbrace :: .ident "else" :: .lbrace :: ts4) → Parses expression ts4 e (.rbrace :: r) →
      Parses conditional ts (Expr.cond a o b t e) r
  | op {ts a o ts2 b r} : Parses expression ts a (.op o :: ts2) → Parses expression ts2 b r → Parses condition ts (a, o, b) r
  | nil (r) : Parses sequence (.rparen :: r) Exprs.nil r
  | cons {ts e r2 es r} : (∀ r', ts ≠ .rparen :: r') → Parses expression ts e (.comma :: r2) → Parses sequence r2 es r →
      Parses sequence ts (Exprs.cons e es) r
  | single {ts e r} : (∀ r', ts ≠ .rparen :: r') → Parses expression ts e (.rparen :: r) → Parses sequence ts (Exprs.cons e .nil) r

/- Induction on the fuel.  Unfolding the function and splitting `h` at every `match` leaves one goal per path through it: a
failing path has `h : none = some _`, a successful one is a rule, whose premises are the hypotheses the splits left. -/
theorem parse_sound : ∀ (f : Nat) (p : Phrase) (ts : List Tk) (x : p.Res) (r : List Tk), parse p f ts = some (x, r) → Parses p ts x r := by
  intro f
  induction f with
  | zero => intro p ts x r h; cases p <;> cases h
  | succ f ih =>
    intro p ts x r h
    cases p
    all_goals
      simp only [parse, parseValue, parseConjunct, parseDisjunct, parseExpression, parseCondition, parseConditional, parseSequence] at h
      repeat' split at h
    all_goals first | cases h; done | cases h | skip
    · exact .str _ _
    · exact .bt _ _
    · exact .strAdj _ _
    · exact .xLit _ _
    · exact .assert (ih _ _ _ _ ‹_›) (ih _ _ _ _ ‹_›)
    · exact .call ‹_› (ih _ _ _ _ ‹_›) ‹_›
    · exact .var ‹_› ‹_› ‹_›
    · exact .group (ih _ _ _ _ ‹_›)
    · exact .cond (ih _ _ _ _ h)
    · exact .joinR (ih _ _ _ _ ‹_›)
    · exact .joinL ‹_› ‹_› (ih _ _ _ _ ‹_›) (ih _ _ _ _ ‹_›)
    · exact .concat ‹_› ‹_› (ih _ _ _ _ ‹_›) (ih _ _ _ _ ‹_›)
    · exact .value ‹_› ‹_› (ih _ _ _ _ ‹_›) ‹_› ‹_›
    · exact .and (ih _ _ _ _ ‹_›) (ih _ _ _ _ ‹_›)
    · exact .conjunct (ih _ _ _ _ ‹_›) ‹_›
    · exact .or (ih _ _ _ _ ‹_›) (ih _ _ _ _ ‹_›)
    · exact .disjunct (ih _ _ _ _ ‹_›) ‹_›
    · exact .op (ih _ _ _ _ ‹_›) (ih _ _ _ _ ‹_›)
    · exact .elseIf (ih _ _ _ _ ‹_›) (ih _ _ _ _ ‹_›) (ih _ _ _ _ ‹_›)
    · exact .elseBlock (ih _ _ _ _ ‹_›) (ih _ _ _ _ ‹_›) (ih _ _ _ _ ‹_›)
    · exact .nil _
    · exact .cons ‹_› (ih _ _ _ _ ‹_›) (ih _ _ _ _ ‹_›)
    · exact .single ‹_› (ih _ _ _ _ ‹_›)

theorem Parses.lt {p ts x r} (h : Parses p ts x r) : r.length < ts.length := by
  induction h <;> (try simp only [List.length_cons] at *) <;> omega

theorem size_pos (e : Expr) : 1 ≤ e.size := by cases e <;> simp [Expr.size]

def Phrase.size : (p : Phrase) → p.Res → Nat
  | .condition, (a, _, b) => a.size + b.size
  | .sequence, es => es.size
  | .value, e | .conjunct, e | .disjunct, e | .expression, e | .conditional, e => e.size

/-- the levels a phrase may still have to descend before it reads a token -/
def Phrase.need : Phrase → Nat
  | .conjunct => 1 | .disjunct => 2 | .expression => 3 | .sequence => 1 | _ => 0

/-- **Fuel linear in the size of the result suffices**, whatever the tokens: each rule is the function at fuel `f + 1`
calling the functions of its premises at fuel `f`. -/
theorem Parses.complete_size {p ts x r} (h : Parses p ts x r) : ∀ f, 4 * p.size x + p.need ≤ f → parse p f ts = some (x, r) := by
  induction h
  case op _ a _ _ b _ _ _ _ _ =>
    -- both operands need fuel: that for the one comes from the size (at least 1) of the other
    have := size_pos a; have := size_pos b
    intro f hf
    simp only [parse, Phrase.size, Phrase.need] at *
    obtain ⟨f, rfl⟩ : ∃ g, f = g + 1 := ⟨f - 1, by omega⟩
    simp (disch := omega) only [parseCondition, *]
  all_goals
    intro f hf
    simp only [parse, Phrase.size, Phrase.need, Expr.size, Exprs.size] at *
    obtain ⟨f, rfl⟩ : ∃ g, f = g + 1 := ⟨f - 1, by omega⟩
    simp (disch := omega) only [parseValue, parseConjunct, parseDisjunct, parseExpression, parseSequence, parseConditional, if_true, *]

/-- every node of the result has a token of its own -/
theorem Parses.size_le {p ts x r} (h : Parses p ts x r) : p.size x + r.length ≤ ts.length := by
  induction h <;> simp only [Phrase.size, Expr.size, Exprs.size, List.length_cons] at * <;> omega

def Phrase.rank : Phrase → Nat
  | .value => 1 | .conjunct => 2 | .disjunct => 3 | .expression => 4 | .condition => 5 | .conditional => 6 | .sequence => 5

/-- fuel linear in the number of tokens suffices as well -/
theorem Parses.complete {p ts x r} (h : Parses p ts x r) (f : Nat) (hf : 8 * ts.length + p.rank ≤ f) : parse p f ts = some (x, r) :=
  h.complete_size f (by have := h.size_le; cases p <;> simp only [Phrase.need, Phrase.rank] at * <;> omega)

/-- **Fuel beyond the bound is never used**: the parsing function agrees with the grammar from there on. -/
theorem parse_stable (p : Phrase) (ts : List Tk) (f k : Nat) (h : 8 * ts.length + p.rank ≤ f) : parse p (f + k) ts = parse p f ts :=
  Option.ext fun (x, r) =>
    ⟨fun e => (parse_sound _ p ts x r e).complete f h, fun e => (parse_sound _ p ts x r e).complete (f + k) (by omega)⟩

end Just.Syntax
