/-
What trimming white space at one end comes to (`Eval.trimStartL`, `Ast.trimEnd`, `Ast.docOf`): `dropWhile p` leaves a list
that does not begin with a `p`, and leaves such a list alone.
-/
namespace Just

theorem dropWhile_head {α : Type} {p : α → Bool} {l : List α} {x : α} (hx : (l.dropWhile p).head? = some x) : p x = false := by
  have := List.head?_dropWhile_not p l
  rwa [hx] at this

theorem dropWhile_eq_self {α : Type} {p : α → Bool} {l : List α} (h : ∀ x, l.head? = some x → p x = false) : l.dropWhile p = l := by
  cases l with
  | nil => rfl
  | cons x xs => exact List.dropWhile_cons_of_neg (by simp [h x rfl])

end Just
