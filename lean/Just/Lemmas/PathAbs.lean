/-
Lemmas about `Just.Path.absolutePath` (`absolute_path()`): joining to an absolute working
directory and cleaning gives an absolute path text.
-/
import Just.Lemmas.Path
namespace Just.Path

theorem cleanStep_keeps_root (acc : List Comp) (c : Comp) (h : acc.getLast? = some .root) :
    (cleanStep acc c).getLast? = some .root := by
  rcases cleanStep_cases acc c with e | e | ⟨s, e⟩
  · rw [e]; exact h
  · rw [e, List.getLast?_cons_of_ne_nil fun hn => by rw [hn] at h; cases h]; exact h
  · -- the name that is popped is not the root, so it was not the oldest element
    rw [e] at h
    cases hr : cleanStep acc c with
    | nil => rw [hr] at h; cases h
    | cons a r => rw [hr, List.getLast?_cons_cons] at h; exact h

theorem cleanComps_root (cs : List Comp) : ∃ r, cleanComps (.root :: cs) = .root :: r := by
  have h := List.foldlRecOn cs cleanStep (motive := fun acc => acc.getLast? = some .root) (b := [.root]) rfl
    fun acc h c _ => cleanStep_keeps_root acc c h
  rw [List.getLast?_eq_head?_reverse] at h
  exact List.head?_eq_some_iff.mp h

theorem lexiclean_absolute (t : List Char) : ∃ t', lexiclean ('/' :: t) = '/' :: t' := by
  unfold lexiclean
  simp only
  split
  · exact ⟨t, rfl⟩
  · obtain ⟨r, hr⟩ := cleanComps_root (partsComps false (splitSlash ('/' :: t) []))
    rw [show components ('/' :: t) = .root :: partsComps false (splitSlash ('/' :: t) []) from rfl, hr]
    exact List.foldlRecOn r push (motive := fun b => ∃ t', b = '/' :: t') ⟨[], rfl⟩ fun _ ⟨t, ht⟩ c _ => ht ▸ push_head t c

theorem pushStr_absolute (t p : List Char) : ∃ t', pushStr ('/' :: t) p = '/' :: t' := by
  fun_cases pushStr ('/' :: t) p <;> simp_all

end Just.Path
