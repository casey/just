import Just.Lemmas.Grammar
/-
Every function of the expression parser returns strictly fewer tokens than it was given.
-/
namespace Just.Syntax
open Just

structure ParserProg (f : Nat) : Prop where
  value : ∀ ts e r, parseValue f ts = some (e, r) → r.length < ts.length
  conjunct : ∀ ts e r, parseConjunct f ts = some (e, r) → r.length < ts.length
  disjunct : ∀ ts e r, parseDisjunct f ts = some (e, r) → r.length < ts.length
  expression : ∀ ts e r, parseExpression f ts = some (e, r) → r.length < ts.length
  conditional : ∀ ts e r, parseConditional f ts = some (e, r) → r.length < ts.length
  condition : ∀ ts c r, parseCondition f ts = some (c, r) → r.length < ts.length
  sequence : ∀ ts es r, parseSequence f ts = some (es, r) → r.length < ts.length

theorem parserProg (f : Nat) : ParserProg f where
  value ts e r h := (parse_sound f .value ts e r h).lt
  conjunct ts e r h := (parse_sound f .conjunct ts e r h).lt
  disjunct ts e r h := (parse_sound f .disjunct ts e r h).lt
  expression ts e r h := (parse_sound f .expression ts e r h).lt
  conditional ts e r h := (parse_sound f .conditional ts e r h).lt
  condition ts c r h := (parse_sound f .condition ts c r h).lt
  sequence ts es r h := (parse_sound f .sequence ts es r h).lt

end Just.Syntax
