/-
"The first element that …" of a list walked with a running index: the shape of what `Search.search`
(C16) and `Dotenv.findFile` (C18) return.
-/
namespace Just

/-- counting from `i`, `l` is the index of the first element of `ds` that is not `skip`ped, and it
is a `hit` -/
def FirstAt {α : Type} (skip hit : α → Prop) (ds : List α) (i l : Nat) : Prop :=
  i ≤ l ∧ (∀ j, j < l - i → ∀ d, ds[j]? = some d → skip d) ∧ ∃ d, ds[l - i]? = some d ∧ hit d

theorem FirstAt.here {α : Type} {skip hit : α → Prop} {d : α} {ds : List α} {i : Nat} (h : hit d) :
    FirstAt skip hit (d :: ds) i i :=
  ⟨Nat.le_refl _, fun j hj => by omega, d, by simp, h⟩

theorem FirstAt.next {α : Type} {skip hit : α → Prop} {d : α} {ds : List α} {i l : Nat} (hd : skip d)
    (h : FirstAt skip hit ds (i + 1) l) : FirstAt skip hit (d :: ds) i l := by
  obtain ⟨h1, h2, x, hx, hit⟩ := h
  refine ⟨by omega, fun j hj y hy => ?_, x, ?_, hit⟩
  · cases j with
    | zero => exact (Option.some.inj hy) ▸ hd
    | succ j => exact h2 j (by omega) y hy
  · rwa [show l - i = (l - (i + 1)) + 1 by omega]

end Just
