import Just.Lemmas.Grammar
/-
What the round trip of expressions is stated with - the level of an expression, the shapes the parser can produce (`WF`),
what may follow a printed phrase (`StopE`, `After`) - and the lemmas about these notions and about how a printed
expression begins.  The round trip itself is Lemmas/SyntaxRoundtrip.lean.
-/
namespace Just.Syntax
open Just

/-- syntactic level of an expression: 0 value, 1 conjunct, 2 disjunct, 3 expression -/
def level : Expr → Nat
  | .str _ => 0
  | .var _ => 0
  | .backtick _ => 0
  | .call _ _ => 0
  | .assert _ _ _ _ => 0
  | .group _ => 0
  | .concat _ _ => 1
  | .joinL _ _ => 1
  | .joinR _ => 1
  | .cond _ _ _ _ _ => 1
  | .and _ _ => 2
  | .or _ _ => 3

def okName (n : String) : Prop := n ≠ "if" ∧ n ≠ "assert"

mutual
/-- the shapes the parser can produce: operands of the right-recursive operators are of lower
level on the left; `if` and `assert` are not names -/
def WF : Expr → Prop
  | .str _ => True
  | .backtick _ => True
  | .var n => okName n
  | .call f args => okName f ∧ fnOk f args.length = true ∧ WFs args
  | .concat l r => level l = 0 ∧ level r ≤ 1 ∧ WF l ∧ WF r
  | .joinL l r => level l = 0 ∧ level r ≤ 1 ∧ WF l ∧ WF r
  | .joinR r => level r ≤ 1 ∧ WF r
  | .and l r => level l ≤ 1 ∧ level r ≤ 2 ∧ WF l ∧ WF r
  | .or l r => level l ≤ 2 ∧ WF l ∧ WF r
  | .cond a _ b t e => WF a ∧ WF b ∧ WF t ∧ WF e
  | .assert a _ b m => WF a ∧ WF b ∧ WF m
  | .group e => WF e
def WFs : Exprs → Prop
  | .nil => True
  | .cons e es => WF e ∧ WFs es
end

/-- tokens that would make the parser at level `k` continue instead of returning -/
def blocks : Nat → Tk → Bool
  | 0, _ => false
  | 1, t => t == .slash || t == .plus
  | 2, t => t == .slash || t == .plus || t == .andand
  | _, t => t == .slash || t == .plus || t == .andand || t == .barbar

/-- what follows does not continue a level-`k` phrase -/
def Stop (k : Nat) (rest : List Tk) : Prop := ∀ t, rest.head? = some t → blocks k t = false

/-- the identifier a printed expression ends with, if it ends with one: what comes next could then be read
as part of it (`name (` is a call, `x'…'` a shell-expanded string) -/
def endsIdent : Expr → Option String
  | .var n => some n
  | .concat _ r => endsIdent r
  | .joinL _ r => endsIdent r
  | .joinR r => endsIdent r
  | .and _ r => endsIdent r
  | .or _ r => endsIdent r
  | .str _ => none
  | .backtick _ => none
  | .call _ _ => none
  | .cond _ _ _ _ _ => none
  | .assert _ _ _ _ => none
  | .group _ => none

/-- what follows `e` is not swallowed by a trailing identifier of `e` -/
def After (e : Expr) (rest : List Tk) : Prop :=
  ∀ n, endsIdent e = some n → rest.head? ≠ some .lparen ∧ (n = "x" → ∀ s, rest.head? ≠ some (.strAdj s))

/-- the rightmost operand chain of `e` ends in a value (what `parse_conjunct` extends with `/` or `+`), not in a
conditional (which it returns as it is) -/
def endsValue : Expr → Bool
  | .cond _ _ _ _ _ => false
  | .concat _ r => endsValue r
  | .joinL _ r => endsValue r
  | .joinR r => endsValue r
  | .and _ r => endsValue r
  | .or _ r => endsValue r
  | .str _ => true
  | .var _ => true
  | .backtick _ => true
  | .call _ _ => true
  | .assert _ _ _ _ => true
  | .group _ => true

/-- the tokens that make the level-`k` parser go on after having read `e` -/
def blocksE (k : Nat) (e : Expr) (t : Tk) : Bool :=
  (decide (1 ≤ k) && endsValue e && (t == .slash || t == .plus)) || (decide (2 ≤ k) && t == .andand) || (decide (3 ≤ k) && t == .barbar)

/-- what follows does not continue the level-`k` phrase `e` (exact: `/` and `+` only extend a phrase that ends in a value) -/
def StopE (k : Nat) (e : Expr) (rest : List Tk) : Prop := ∀ t, rest.head? = some t → blocksE k e t = false

/-- parser entry point of level `k` -/
def parseAt : Nat → Nat → List Tk → Option (Expr × List Tk)
  | 0 => parseValue
  | 1 => parseConjunct
  | 2 => parseDisjunct
  | _ => parseExpression

/-- the first token is none of those `parse_conjunct` dispatches on: it hands the tokens to `parse_value` (in the form the
rules of `Parses` ask for) -/
def ValueStart (ts : List Tk) : Prop := (∀ r, ts ≠ .ident "if" :: r) ∧ (∀ r, ts ≠ .slash :: r)

theorem stop_cons (k : Nat) (t : Tk) (rest : List Tk) (h : blocks k t = false) : Stop k (t :: rest) := by
  intro t' ht'; cases ht'; exact h

theorem stop_nil (k : Nat) : Stop k [] := fun _ h => nomatch h

theorem stopE_cons (k : Nat) (e : Expr) (t : Tk) (rest : List Tk) (h : blocksE k e t = false) : StopE k e (t :: rest) := by
  intro t' ht'; cases ht'; exact h

theorem stopE_nil (k : Nat) (e : Expr) : StopE k e [] := fun _ h => nomatch h

theorem after_nil (e : Expr) : After e [] := fun _ _ => ⟨fun h => (nomatch h), fun _ _ h => nomatch h⟩

theorem after_of_none {e : Expr} (h : endsIdent e = none) (rest : List Tk) : After e rest := by
  intro n hn; rw [h] at hn; cases hn

/-- `blocks k` is `blocksE k` of a phrase that ends in a value: `Stop` is the case of `StopE` that does not look at the phrase -/
theorem blocks_eq (k : Nat) (t : Tk) : blocks k t = blocksE k (.var "") t := by
  match k with
  | 0 | 1 | 2 | k + 3 => simp [blocks, blocksE, endsValue]

/-- `blocksE` is a disjunction of thresholds in `k`: a smaller `k` passes fewer of them -/
theorem blocksE_mono {j k : Nat} (hjk : j ≤ k) {e : Expr} {t : Tk} (h : blocksE k e t = false) : blocksE j e t = false := by
  unfold blocksE at h ⊢; grind

theorem blocksE_le_blocks (k : Nat) (e : Expr) (t : Tk) (h : blocks k t = false) : blocksE k e t = false := by
  rw [blocks_eq] at h; unfold blocksE at h ⊢; simp only [endsValue] at h; grind

theorem StopE.le {j k : Nat} {e : Expr} {rest : List Tk} (h : StopE k e rest) (hjk : j ≤ k) : StopE j e rest :=
  fun t ht => blocksE_mono hjk (h t ht)

/-- `StopE` looks at the phrase only through `endsValue` -/
theorem StopE.congr {k : Nat} {e e' : Expr} {rest : List Tk} (h : StopE k e rest) (hev : endsValue e' = endsValue e) : StopE k e' rest := by
  intro t ht
  simpa [blocksE, hev] using h t ht

theorem StopE.of_stop {k : Nat} {e : Expr} {rest : List Tk} (h : Stop k rest) : StopE k e rest :=
  fun t ht => blocksE_le_blocks k e t (h t ht)

theorem Stop.le {j k : Nat} {rest : List Tk} (h : Stop k rest) (hjk : j ≤ k) : Stop j rest := by
  intro t ht; rw [blocks_eq]; exact blocksE_mono hjk (by rw [← blocks_eq]; exact h t ht)

/-- A token that ends a level-`k` phrase in front of it, however the phrase ends: no operator the level-`k` parser goes on
with, and nothing a trailing name would swallow (`(`, a string directly after `x`).  For a given token the hypothesis
`closes k t = true` is `rfl`. -/
def closes (k : Nat) : Tk → Bool
  | .lparen | .strAdj _ => false
  | t => !blocks k t

theorem stopE_of_closes {k : Nat} {t : Tk} (h : closes k t = true) (e : Expr) (r : List Tk) : StopE k e (t :: r) :=
  stopE_cons k e t r (blocksE_le_blocks k e t (by cases t <;> simp_all [closes]))

theorem after_of_closes {k : Nat} {t : Tk} (h : closes k t = true) (e : Expr) (r : List Tk) : After e (t :: r) :=
  fun _ _ => ⟨fun hl => (by cases hl; cases h), fun _ _ hs => by cases hs; cases h⟩

/-- a token the level-`k` parser would go on with after `e` does not come next -/
theorem StopE.not_next {k : Nat} {e : Expr} {rest : List Tk} (h : StopE k e rest) {t : Tk} (hb : blocksE k e t = true) : ∀ r, rest ≠ t :: r :=
  fun r hr => by rw [h t (by rw [hr]; rfl)] at hb; cases hb

theorem litTokens_cases (l : String) :
    (∃ cs, l.toList = 'x' :: cs ∧ litTokens l = [.ident "x", .strAdj (String.ofList cs)]) ∨ litTokens l = [.str l] := by
  unfold litTokens
  split
  · rename_i cs h; exact .inl ⟨cs, h, rfl⟩
  · exact .inr rfl

theorem xLit_ofList {l : String} {cs : List Char} (h : l.toList = 'x' :: cs) : xLit (String.ofList cs) = l := by
  unfold xLit
  rw [String.toList_ofList, ← h, String.ofList_toList]

/-- the tokens a printed expression can begin with -/
def startTok : Tk → Bool
  | .str _ => true
  | .ident _ => true
  | .bt _ => true
  | .lparen => true
  | .slash => true
  | _ => false

/-- `ts` begins with a token of the class `c`: how the printed form of a phrase is known to a parser that dispatches on
the next token -/
def Begins (c : Tk → Bool) (ts : List Tk) : Prop := ∃ t r, ts = t :: r ∧ c t = true

theorem Begins.cons {c : Tk → Bool} {t : Tk} (h : c t = true) (r : List Tk) : Begins c (t :: r) := ⟨t, r, rfl, h⟩

theorem Begins.append {c : Tk → Bool} {ts : List Tk} (h : Begins c ts) (more : List Tk) : Begins c (ts ++ more) := by
  obtain ⟨t, r, rfl, ht⟩ := h
  exact ⟨t, r ++ more, rfl, ht⟩

/-- … hence not with a token outside the class (the form the equations of a `match` on the first token ask for) -/
theorem Begins.ne {c : Tk → Bool} {ts : List Tk} (h : Begins c ts) {t' : Tk} (ht' : c t' = false) : ∀ r', ts ≠ t' :: r' := by
  obtain ⟨t, r, rfl, ht⟩ := h
  rintro _ ⟨⟩
  rw [ht] at ht'; cases ht'

theorem litTokens_head (l : String) : Begins startTok (litTokens l) := by
  rcases litTokens_cases l with ⟨cs, _, h⟩ | h <;> rw [h] <;> exact .cons rfl _

theorem printE_head : (e : Expr) → Begins startTok (printE e)
  | .str l => by rw [printE]; exact litTokens_head l
  | .var _ | .backtick _ | .call _ _ | .joinR _ | .cond .. | .assert .. | .group _ => .cons rfl _
  | .concat l _ | .joinL l _ | .and l _ | .or l _ => by
    rw [printE, List.append_assoc]; exact (printE_head l).append _

theorem level_le3 (e : Expr) : level e ≤ 3 := by cases e <;> simp [level]

theorem valueStart_cons {t : Tk} (h1 : t ≠ .ident "if") (h2 : t ≠ .slash) (r : List Tk) : ValueStart (t :: r) :=
  ⟨fun _ h => h1 (List.cons.inj h).1, fun _ h => h2 (List.cons.inj h).1⟩

/-- a well-formed value begins with a token that `parse_conjunct` hands to `parse_value`, and ends in a value -/
theorem value_of_level0 {e : Expr} (hw : WF e) (hl : level e = 0) (rest : List Tk) :
    ValueStart (printE e ++ rest) ∧ endsValue e = true := by
  match e, hw, hl with
  | .str l, _, _ =>
    refine ⟨?_, rfl⟩
    rcases litTokens_cases l with ⟨cs, _, h⟩ | h <;> rw [printE, h] <;> exact valueStart_cons (by simp) (by simp) _
  | .var n, hw, _ => exact ⟨valueStart_cons (fun h => hw.1 (Tk.ident.inj h)) (by simp) _, rfl⟩
  | .call n _, hw, _ => exact ⟨valueStart_cons (fun h => hw.1.1 (Tk.ident.inj h)) (by simp) _, rfl⟩
  | .backtick _, _, _ | .group _, _, _ | .assert .., _, _ => exact ⟨valueStart_cons (by simp) (by simp) _, rfl⟩

theorem printElse_cond (a : Expr) (o : CondOp) (b t x : Expr) :
    printElse (.cond a o b t x) = printE (.cond a o b t x) := rfl

theorem printElse_cases : (x : Expr) → (∃ a o b t e, x = .cond a o b t e) ∨ printElse x = .lbrace :: (printE x ++ [.rbrace])
  | .cond .. => .inl ⟨_, _, _, _, _, rfl⟩
  | .str _ | .var _ | .backtick _ | .call .. | .concat .. | .joinL .. | .joinR _ | .and .. | .or .. | .assert .. | .group _ =>
    .inr rfl

end Just.Syntax
