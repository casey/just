import Just.Lemmas.EvalBind
/-
Every assignment is evaluated at most once (`evaluate_assignment` binds the value, and a bound
name is never evaluated again), for assignment tables whose references are acyclic - which is what
the assignment resolver guarantees (C03).

The invariant (`Pre`, kept by `Ext`): the names whose evaluation has started (`logged`) are distinct, and each of them is
bound by now or still in progress; `R` bounds what may start next strictly from above, while everything in progress ranks
at least `R`.  So a name about to be evaluated is not in progress, and being unbound it has not been logged: no repetition.
Entering the assignment of `x` lowers the bound to `rank x`; a failure keeps only "no repeats" (`Post`).
-/
namespace Just.Eval

def logged (log : List Ev) : List String :=
  log.filterMap (fun ev => match ev with | .evalAssign n => some n | _ => none)

def bound (st : St) (n : String) : Prop := (lookupScope st n).isSome = true

@[simp] theorem logged_append (a b : List Ev) : logged (a ++ b) = logged a ++ logged b := by
  simp [logged, List.filterMap_append]

@[simp] theorem logged_bt (c : String) : logged [Ev.bt c] = [] := rfl
@[simp] theorem logged_ev (n : String) : logged [Ev.evalAssign n] = [n] := rfl

variable (rank : String → Nat)

structure Pre (R : Nat) (st : St) : Prop where
  nodup : (logged st.log).Nodup
  old : ∀ n ∈ logged st.log, bound st n ∨ R ≤ rank n

structure Ext (R : Nat) (st st' : St) : Prop where
  new : ∃ new, logged st'.log = logged st.log ++ new ∧ ∀ n ∈ new, rank n < R ∧ bound st' n
  mono : ∀ n, bound st n → bound st' n
  nodup : (logged st'.log).Nodup

def Post {α : Type} (R : Nat) (st : St) (r : Res α) : Prop :=
  match r.2 with
  | .ok _ => Ext rank R st r.1
  | .error _ => (logged r.1.log).Nodup

theorem Ext.weaken {R R' : Nat} {st st' : St} (h : Ext rank R' st st') (hle : R' ≤ R) : Ext rank R st st' := by
  obtain ⟨new, e, p⟩ := h.new
  exact ⟨⟨new, e, fun n hn => ⟨Nat.lt_of_lt_of_le (p n hn).1 hle, (p n hn).2⟩⟩, h.mono, h.nodup⟩

@[simp] theorem post_ok {α : Type} (R : Nat) (st st1 : St) (v : α) :
    Post rank R st ((st1, .ok v) : Res α) ↔ Ext rank R st st1 := Iff.rfl

@[simp] theorem post_err {α : Type} (R : Nat) (st st1 : St) (e : Err) :
    Post rank R st ((st1, .error e) : Res α) ↔ (logged st1.log).Nodup := Iff.rfl

/-- the references of the table are acyclic: a name ranks above every assigned name its expression mentions
(C03 `assignments_accept_sound` gives such a rank for every table the resolver accepts) -/
def Ranked (as : List (String × Expr)) : Prop :=
  ∀ x e, as.lookup x = some e → ∀ y ∈ e.vars, (as.lookup y).isSome = true → rank y < rank x

def Below (as : List (String × Expr)) (R : Nat) (vs : List String) : Prop :=
  ∀ y ∈ vs, (as.lookup y).isSome = true → rank y < R

/-- statements proved together by induction on the fuel -/
structure OnceAt (ctx : Ctx) (as : List (String × Expr)) (fuel : Nat) : Prop where
  expr : ∀ e st R, Pre rank R st → Below rank as R e.vars → Post rank R st (evalExpr ctx (some as) fuel e st)
  exprs : ∀ es st R, Pre rank R st → Below rank as R es.vars → Post rank R st (evalExprs ctx (some as) fuel es st)
  assignment : ∀ x e st R, Pre rank R st → as.lookup x = some e → rank x < R →
    Post rank R st (evalAssignment ctx (some as) fuel x e st)

theorem bound_cons (st : St) (x v n : String) (h : bound st n) : bound { st with scope := (x, v) :: st.scope } n := by
  unfold bound lookupScope at h ⊢
  simp only [List.lookup]
  split
  · rfl
  · exact h

theorem bound_head (st : St) (x v : String) : bound { st with scope := (x, v) :: st.scope } x := by
  unfold bound lookupScope
  simp [List.lookup]

variable {rank}

theorem Ext.trans {R : Nat} {st st1 st2 : St} (h1 : Ext rank R st st1) (h2 : Ext rank R st1 st2) : Ext rank R st st2 := by
  obtain ⟨n1, e1, p1⟩ := h1.new
  obtain ⟨n2, e2, p2⟩ := h2.new
  refine ⟨⟨n1 ++ n2, by rw [e2, e1, List.append_assoc], ?_⟩, fun n h => h2.mono n (h1.mono n h), h2.nodup⟩
  intro n hn
  rcases List.mem_append.mp hn with h | h
  · exact ⟨(p1 n h).1, h2.mono n (p1 n h).2⟩
  · exact p2 n h

theorem Ext.pre {R : Nat} {st st' : St} (hp : Pre rank R st) (h : Ext rank R st st') : Pre rank R st' := by
  obtain ⟨new, e, p⟩ := h.new
  refine ⟨h.nodup, ?_⟩
  intro n hn
  rw [e] at hn
  rcases List.mem_append.mp hn with h' | h'
  · rcases hp.old n h' with hb | hr
    · exact Or.inl (h.mono n hb)
    · exact Or.inr hr
  · exact Or.inl (p n h').2

theorem Below.left {as : List (String × Expr)} {R : Nat} {a b : List String} (h : Below rank as R (a ++ b)) : Below rank as R a :=
  fun y hy => h y (List.mem_append.mpr (Or.inl hy))

theorem Below.right {as : List (String × Expr)} {R : Nat} {a b : List String} (h : Below rank as R (a ++ b)) : Below rank as R b :=
  fun y hy => h y (List.mem_append.mpr (Or.inr hy))

theorem Post.leaf {α : Type} {R : Nat} {st : St} {r : Res α} (hn : (logged st.log).Nodup)
    (h : r.1 = st ∨ ∃ c, r.1 = { st with log := st.log ++ [.bt c] }) : Post rank R st r := by
  obtain ⟨st', x⟩ := r
  have hl : logged st'.log = logged st.log ∧ st'.scope = st.scope := by
    rcases h with rfl | ⟨c, rfl⟩
    · exact ⟨rfl, rfl⟩
    · exact ⟨by simp, rfl⟩
  have hx : Ext rank R st st' :=
    ⟨⟨[], by simpa using hl.1, nofun⟩, fun n hb => by rwa [bound, lookupScope, hl.2], hl.1 ▸ hn⟩
  cases x with
  | ok _ => exact hx
  | error _ => exact hx.nodup

theorem Post.nodup {α : Type} {R : Nat} {st : St} {r : Res α} (h : Post rank R st r) : (logged r.1.log).Nodup := by
  unfold Post at h
  split at h
  · exact h.nodup
  · exact h

theorem Post.pure {α : Type} {R : Nat} {st : St} {x : Except Err α} (hp : Pre rank R st) : Post rank R st (st, x) :=
  .leaf hp.nodup (.inl rfl)

theorem Post.bind {α β : Type} {R : Nat} {st : St} {r : Res α} {k : St → α → Res β} (hp : Pre rank R st)
    (h1 : Post rank R st r) (h2 : ∀ st1 a, Pre rank R st1 → Post rank R st1 (k st1 a)) : Post rank R st (r.bind k) := by
  obtain ⟨st1, _ | a⟩ := r
  · exact h1
  · have h3 := h2 st1 a (Ext.pre hp h1)
    show Post rank R st (k st1 a)
    unfold Post at h3 ⊢
    split <;> simp only [*] at h3
    · exact Ext.trans h1 h3
    · exact h3

variable (rank)

theorem onceAt (ctx : Ctx) (as : List (String × Expr)) (hr : Ranked rank as) (fuel : Nat) : OnceAt rank ctx as fuel := by
  induction fuel with
  | zero => exact ⟨fun _ _ _ hp _ => by rw [evalExpr_zero]; exact hp.nodup,
      fun _ _ _ hp _ => by rw [evalExprs_zero]; exact hp.nodup, fun _ _ _ _ hp _ _ => by rw [evalAssignment_zero]; exact hp.nodup⟩
  | succ fuel ih =>
    -- the assignment case first: the variable case of expressions needs it at `fuel` only (through `ih`)
    have hassign : ∀ x e st R, Pre rank R st → as.lookup x = some e → rank x < R →
        Post rank R st (evalAssignment ctx (some as) (fuel + 1) x e st) := by
      intro x e st R hp hx hxr
      cases hl : lookupScope st x with
      | some v => rw [evalAssignment_of_bound _ _ _ _ _ _ _ hl]; exact .pure hp
      | none =>
        rw [evalAssignment_of_unbound _ _ _ _ _ _ hl]
        -- `x` was not logged before, and its own rank is the bound for what its expression may start
        have hnot : x ∉ logged st.log := fun hm =>
          (hp.old x hm).elim (fun hb => by rw [bound, hl] at hb; cases hb) (by omega)
        have hp0 : Pre rank (rank x) { st with log := st.log ++ [.evalAssign x] } := by
          refine ⟨?_, fun n hn => ?_⟩
          · simpa [List.nodup_append, hp.nodup] using fun a ha (e : a = x) => hnot (e ▸ ha)
          · simp only [logged_append, logged_ev, List.mem_append, List.mem_singleton] at hn
            rcases hn with hn | rfl
            · exact (hp.old n hn).imp_right (by omega)
            · exact .inr (Nat.le_refl _)
        have h1 := ih.expr e _ (rank x) hp0 (hr x e hx)
        generalize evalExpr ctx (some as) fuel e { st with log := st.log ++ [.evalAssign x] } = r at h1 ⊢
        obtain ⟨st1, _ | v⟩ := r
        · exact h1
        · -- `x` is bound now: the step as a whole stays below the outer bound
          have hx1 : Ext rank (rank x) { st with log := st.log ++ [.evalAssign x] } st1 := h1
          obtain ⟨new', e', p'⟩ := hx1.new
          refine ⟨⟨x :: new', by simpa using e', fun n hn => ?_⟩, fun n hb => bound_cons st1 x v n (hx1.mono n hb), hx1.nodup⟩
          rcases List.mem_cons.mp hn with rfl | hn
          · exact ⟨hxr, bound_head st1 _ v⟩
          · exact ⟨Nat.lt_trans (p' n hn).1 hxr, bound_cons st1 x v n (p' n hn).2⟩
    refine ⟨fun e st R hp hb => ?_, fun es st R hp hb => ?_, hassign⟩
    · cases e with
      | str s => rw [evalExpr_str]; exact .pure hp
      | var x =>
        rw [evalExpr_var]
        rcases varCase_cases ctx x st (pendingOf (some as) x) _ with ⟨r, h⟩ | ⟨e', hpe, _, h⟩ <;> rw [h]
        · exact .pure hp
        · exact ih.assignment x e' st R hp hpe (hb x (.head _) (by rw [show as.lookup x = some e' from hpe]; rfl))
      | backtick c =>
        exact .leaf hp.nodup ((evalExpr_backtick_state ctx _ fuel st c).imp_right fun h => ⟨c, h.2⟩)
      | call fn args =>
        rw [evalExpr_call]
        exact .bind hp (ih.exprs args st R hp hb) fun st1 vs hp1 =>
          .leaf hp1.nodup ((applyFn_state ctx fn st1 vs).imp_right fun h => h.2)
      | _ =>
        -- an operator: its operands mention some of its variables
        rw [evalExpr_operator]
        exact Sequential.operate (Φ := fun st r _ => Pre rank R st → Post rank R st r)
          ⟨fun _ _ hp => .pure hp, fun h1 h2 hp => .bind hp (h1 hp) h2⟩ (evalExpr ctx (some as) fuel)
          (fun s hs st hp => ih.expr s st R hp fun y hy => hb y (operands_vars hs y hy)) st hp
    · cases es with
      | nil => rw [evalExprs_nil]; exact .pure hp
      | cons e es =>
        rw [evalExprs_cons]
        exact .bind hp (ih.expr e st R hp hb.left) fun st1 _ hp1 =>
          .bind hp1 (ih.exprs es st1 R hp1 hb.right) fun _ _ hp2 => .pure hp2

theorem evalAll_once (ctx : Ctx) (as : List (String × Expr)) (hr : Ranked rank as) (fuel : Nat) (R : Nat)
    (hR : ∀ x e, as.lookup x = some e → rank x < R) (rest : List (String × Expr))
    (hrest : ∀ p ∈ rest, as.lookup p.1 = some p.2) (st : St) (hp : Pre rank R st) :
    Post rank R st (evalAll ctx as fuel rest st) := by
  induction rest generalizing st with
  | nil => exact .pure hp
  | cons p rest ih =>
    obtain ⟨n, e⟩ := p
    have hne : as.lookup n = some e := hrest (n, e) (.head _)
    rw [evalAll_cons]
    exact .bind hp ((onceAt rank ctx as hr fuel).assignment n e st R hp hne (hR n e hne)) fun st1 _ hp1 =>
      ih (fun p hp' => hrest p (.tail _ hp')) st1 hp1

end Just.Eval
