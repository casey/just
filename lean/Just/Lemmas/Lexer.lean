import Just.Lemmas.LexerLift
/-
Position invariant of the lexer model; it is lifted through every lexing function by `LexerLift`.
-/
namespace Just.Lexer

def posR : List Char → Pos
  | [] => ⟨0, 0, 0⟩
  | c :: r => stepPos (posR r) c

def posOf (pre : List Char) : Pos := posR pre.reverse

def Spans (src : List Char) (t : Tok) : Prop :=
  ∃ pre lex post, src = pre ++ lex ++ post ∧ t.offset = (posOf pre).offset ∧ t.line = (posOf pre).line
    ∧ t.column = (posOf pre).column ∧ t.length = utf8Len lex

def Tiled : List Tok → Nat → Prop
  | [], n => n = 0
  | t :: ts, n => n = t.offset + t.length ∧ Tiled ts t.offset

structure Inv (src : List Char) (s : St) : Prop where
  split : src = s.consumed.reverse ++ s.rest
  tokEnd : s.tokEnd = posR s.consumed
  tokStart : s.tokStart = posR s.startConsumed
  cur : s.consumed = s.cur ++ s.startConsumed
  tokens : ∀ t ∈ s.tokens, Spans src t
  interp : ∀ t ∈ s.interp, Spans src t
  tiled : Tiled s.tokens s.tokStart.offset

@[simp] theorem utf8Len_nil : utf8Len [] = 0 := rfl
@[simp] theorem utf8Len_cons (c : Char) (cs : List Char) : utf8Len (c :: cs) = c.utf8Size + utf8Len cs := by
  simp [utf8Len]
@[simp] theorem utf8Len_append (a b : List Char) : utf8Len (a ++ b) = utf8Len a + utf8Len b := by
  simp [utf8Len]
@[simp] theorem utf8Len_reverse (a : List Char) : utf8Len a.reverse = utf8Len a := by
  induction a with
  | nil => rfl
  | cons c cs ih => simp [ih]; omega

theorem posR_offset (r : List Char) : (posR r).offset = utf8Len r := by
  induction r with
  | nil => rfl
  | cons c cs ih => simp only [posR, stepPos]; split <;> simp [ih] <;> omega

theorem posOf_offset (pre : List Char) : (posOf pre).offset = utf8Len pre := by
  simp [posOf, posR_offset]

theorem initial_inv (src : List Char) : Inv src (initial src) := by
  constructor <;> simp [initial, posR, Tiled]

def Good (src : List Char) {α : Type} : Except Err (α × St) → Prop
  | .ok (_, s') => Inv src s'
  | .error e => Spans src e.tok

/-- `Preserves src m`: `m` keeps `Inv src`, and the token of an error it raises lies in `src`; the form in which the three
primitives are proved for `posSound`, and the statement form of the lemmas `Preserves.*` at the end of the file, which are
instances of `posSound`. -/
structure Preserves (src : List Char) {α : Type} (m : M α) : Prop where
  run : ∀ s, Inv src s → Good src (m s)

variable {src : List Char}

abbrev posSpec (src : List Char) : Spec := ⟨Inv src, fun _ _ => True, fun e => Spans src e.tok, fun _ => trivial, fun _ _ => trivial⟩

theorem good_iff {α : Type} {r : Except Err (α × St)} :
    Good src r ↔ Meets (fun _ s' => Inv src s') (fun e => Spans src e.tok) r := by
  rcases r with e | ⟨a, s⟩ <;> exact Iff.rfl

theorem preserves_iff {α : Type} {m : M α} : Preserves src m ↔ Obeys (posSpec src) m :=
  ⟨fun h s hs => (good_iff.1 (h.run s hs)).imp (fun _ _ h => ⟨h, trivial⟩) fun _ h => h,
   fun h => ⟨fun s hs => good_iff.2 ((h s hs).imp (fun _ _ h => h.1) fun _ h => h)⟩⟩

theorem internalError_spans (msg : String) {s : St} (hs : Inv src s) : Spans src (internalError msg s).tok := by
  refine ⟨s.consumed.reverse, [], s.rest, ?_, ?_, ?_, ?_, ?_⟩ <;> simp [internalError, posOf, hs.tokEnd, ← hs.split]

theorem spans_at_start {s : St} (hs : Inv src s) (k : Kind) (l m : List Char) (h : s.cur.reverse = l ++ m) :
    Spans src ⟨k, s.tokStart.offset, utf8Len l, s.tokStart.line, s.tokStart.column⟩ := by
  refine ⟨s.startConsumed.reverse, l, m ++ s.rest, ?_, ?_, ?_, ?_, ?_⟩
  · have := hs.split
    rw [hs.cur, List.reverse_append, h] at this
    simpa [List.append_assoc] using this
  all_goals simp [posOf, hs.tokStart]

theorem mkError_spans (kind : ErrKind) {s : St} (hs : Inv src s) : Spans src (mkError kind s).tok := by
  rcases mkError_cases kind s with ⟨l, m, hm, h⟩ | ⟨_, _, h⟩ <;> rw [h]
  · exact spans_at_start hs _ l m hm
  · exact internalError_spans _ hs

theorem Inv.offsets {s : St} (hs : Inv src s) : s.tokEnd.offset = s.tokStart.offset + utf8Len s.cur := by
  rw [hs.tokEnd, hs.tokStart, posR_offset, posR_offset, hs.cur, utf8Len_append, Nat.add_comm]

theorem utf8Len_eq_zero {cs : List Char} (h : utf8Len cs = 0) : cs = [] := by
  cases cs with
  | nil => rfl
  | cons c cs => have := Char.utf8Size_pos c; simp at h; omega

theorem idle_of_offsets {s : St} (hs : Inv src s) (h : s.tokEnd.offset - s.tokStart.offset = 0) : s.cur = [] :=
  utf8Len_eq_zero (by have := hs.offsets; omega)

theorem offsets_of_idle {s : St} (hs : Inv src s) (h : s.cur = []) : s.tokEnd = s.tokStart := by
  rw [hs.tokEnd, hs.tokStart, hs.cur, h]; rfl

theorem Preserves.advance : Preserves src advance := by
  constructor
  intro s hs
  unfold Lexer.advance
  split
  · rename_i c cs hrest
    exact { hs with split := by simp [hs.split, hrest], tokEnd := by simp [posR, hs.tokEnd], cur := by simp [hs.cur] }
  · exact internalError_spans _ hs

theorem Preserves.token (k : Kind) : Preserves src (token k) := by
  constructor
  intro s hs
  have hlen : s.tokEnd.offset - s.tokStart.offset = utf8Len s.cur.reverse := by
    rw [hs.offsets, utf8Len_reverse]; omega
  refine { hs with tokStart := hs.tokEnd, cur := by simp, tokens := fun t ht => ?_, tiled := ⟨?_, hs.tiled⟩ }
  · rcases List.mem_cons.1 ht with rfl | ht
    · exact hlen ▸ spans_at_start hs k s.cur.reverse [] (by simp)
    · exact hs.tokens t ht
  · show s.tokEnd.offset = s.tokStart.offset + (s.tokEnd.offset - s.tokStart.offset)
    have := hs.offsets
    omega

theorem Preserves.setFrame (f : St → Frame) : Preserves src (setFrame f) := by
  constructor
  intro s hs
  unfold Lexer.setFrame
  split
  · rename_i hok
    exact { hs with interp := fun t ht => (okInterp_iff.1 hok t ht).elim (hs.interp t) fun h => hs.tokens t (List.mem_of_mem_head? h) }
  · exact internalError_spans _ hs

theorem posSound (src : List Char) : (posSpec src).SoundAll where
  advance := preserves_iff.1 Preserves.advance
  token k := preserves_iff.1 (Preserves.token k)
  setFrame f _ := preserves_iff.1 (Preserves.setFrame f)
  error k _ hs _ := mkError_spans k hs
  internal msg _ hs _ := internalError_spans msg hs
  unterminated _ t hs ht := hs.interp t ht
  setFrameAny f := preserves_iff.1 (Preserves.setFrame f)
  internalAny msg _ hs := internalError_spans msg hs

theorem Preserves.pure {α : Type} (a : α) : Preserves src (pure a : M α) :=
  preserves_iff.2 Obeys.pure

theorem Preserves.bind {α β : Type} {x : M α} {f : α → M β} (hx : Preserves src x)
    (hf : ∀ a, Preserves src (f a)) : Preserves src (x >>= f) :=
  preserves_iff.2 (Obeys.bind (preserves_iff.1 hx) fun a => preserves_iff.1 (hf a))

theorem Preserves.presume (c : Char) : Preserves src (presume c) := preserves_iff.2 ((posSound src).presume c)
theorem Preserves.accepted (c : Char) : Preserves src (accepted c) := preserves_iff.2 ((posSound src).accepted c)
theorem Preserves.advanceWhile (p : Char → Bool) : Preserves src (advanceWhile p) :=
  preserves_iff.2 ((posSound src).advanceWhile p)
theorem Preserves.lexIdentifier : Preserves src lexIdentifier := preserves_iff.2 (posSound src).lexIdentifier
theorem Preserves.dispatch (c : Char) : Preserves src (dispatch c) := preserves_iff.2 ((posSound src).dispatch c)

end Just.Lexer
