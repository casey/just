/-
Discovery and fallback look at nothing but the candidate names of a directory (`Just.Search`).
-/
import Just.Model.Search
namespace Just.Search

/-! ### `isCandidate` on characters

A string literal is `String.ofList` of its characters to `rw` and to the kernel, while evaluating
its `.toList` decodes its bytes.  The names of the table are decoded once, here. -/

theorem loweredNames_eq : Generated.justfileNames.map (fun n => n.toList.map lower) =
    ["justfile".toList, ".justfile".toList] := by
  simp only [Generated.justfileNames, List.map_cons, List.map_nil]
  repeat rw [String.toList_ofList]
  decide

theorem isCandidate_ofList (l : List Char) :
    isCandidate (String.ofList l) =
      ["justfile".toList, ".justfile".toList].any (fun n => l.map lower = n) := by
  rw [← loweredNames_eq, List.any_map]
  simp only [isCandidate, String.toList_ofList, Function.comp_def]

def sameCand : List Level → List Level → Prop
  | [], [] => True
  | d :: ds, e :: es =>
    (d.entries.filter isCandidate = e.entries.filter isCandidate ∧ d.knows = e.knows ∧ d.fallback = e.fallback) ∧ sameCand ds es
  | _, _ => False

theorem sameCand_length (ds es : List Level) (h : sameCand ds es) : ds.length = es.length := by
  fun_induction sameCand ds es <;> simp_all

theorem sameCand_drop : ∀ (n : Nat) (ds es : List Level), sameCand ds es → sameCand (ds.drop n) (es.drop n) := by
  intro n ds es h
  fun_induction sameCand ds es generalizing n
  case case1 => simp [sameCand]
  case case2 ih =>
    cases n with
    | zero => exact h
    | succ n => exact ih n h.2
  case case3 => exact h.elim

theorem search_same : ∀ (ds es : List Level) (i : Nat), sameCand ds es → search ds i = search es i := by
  intro ds es i h
  fun_induction sameCand ds es generalizing i
  case case1 => rfl
  case case2 ih =>
    unfold search
    rw [h.1.1]
    split
    · exact ih _ h.2
    · rfl
    · rfl
  case case3 => exact h.elim

theorem climb_same (searching : Bool) : ∀ (fuel : Nat) (ds es : List Level) (level : Nat) (name : String),
    sameCand ds es → climb searching fuel ds level name = climb searching fuel es level name := by
  intro fuel
  induction fuel with
  | zero => intros; rw [climb, climb]
  | succ fuel ih =>
    intro ds es level name h
    fun_induction sameCand ds es
    case case1 => rfl
    case case2 d above e above' _ =>
      unfold climb
      rw [h.1.2.1, h.1.2.2, search_same above above' (level + 1) h.2]
      split
      · rfl
      · split
        · split
          · exact ih _ _ _ _ (sameCand_drop _ above above' h.2)
          · rfl
        · rfl
    case case3 => exact h.elim

end Just.Search
