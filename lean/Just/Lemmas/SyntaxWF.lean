import Just.Lemmas.Syntax
/-
Whatever the expression parser returns is well-formed (`WF`): the round-trip theorem therefore
applies to every expression that can come out of a justfile.
-/
namespace Just.Syntax
open Just

/-- what the result of each parsing function is like.  `parse_value` takes any identifier for a name: it is `parse_conjunct`
that has dealt with `if` before. -/
def Phrase.WFRes : (p : Phrase) → List Tk → p.Res → Prop
  | .value, ts, e => (∀ r', ts ≠ .ident "if" :: r') → WF e ∧ level e = 0
  | .conjunct, _, e => WF e ∧ level e ≤ 1
  | .disjunct, _, e => WF e ∧ level e ≤ 2
  | .expression, _, e => WF e
  | .conditional, _, e => WF e ∧ level e = 1
  | .condition, _, (a, _, b) => WF a ∧ WF b
  | .sequence, _, es => WFs es

theorem Parses.wf {p ts x r} (h : Parses p ts x r) : p.WFRes ts x := by
  induction h with
  | str | bt | strAdj | xLit => exact fun _ => ⟨trivial, rfl⟩
  | assert _ _ ihc ihm => exact fun _ => ⟨⟨ihc.1, ihc.2, ihm⟩, rfl⟩
  | call hn _ hfn ihs => exact fun hif => ⟨⟨⟨fun h => hif _ (by rw [h]), hn⟩, hfn, ihs⟩, rfl⟩
  | var hn _ _ => exact fun hif => ⟨⟨fun h => hif _ (by rw [h]), hn⟩, rfl⟩
  | group _ ihe => exact fun _ => ⟨ihe, rfl⟩
  | cond _ ih => exact ⟨ih.1, Nat.le_of_eq ih.2⟩
  | joinR _ ih => exact ⟨⟨ih.2, ih.1⟩, Nat.le_refl 1⟩
  | joinL hif _ _ _ ihv ihc | concat hif _ _ _ ihv ihc => exact ⟨⟨(ihv hif).2, ihc.2, (ihv hif).1, ihc.1⟩, Nat.le_refl 1⟩
  | value hif _ _ _ _ ihv => exact ⟨(ihv hif).1, (ihv hif).2 ▸ Nat.zero_le 1⟩
  | and _ _ ihc ihd => exact ⟨⟨ihc.2, ihd.2, ihc.1, ihd.1⟩, Nat.le_refl 2⟩
  | conjunct _ _ ihc => exact ⟨ihc.1, Nat.le_succ_of_le ihc.2⟩
  | or _ _ ihd ihe => exact ⟨ihd.2, ihd.1, ihe⟩
  | disjunct _ _ ihd => exact ihd.1
  | elseIf _ _ _ ihc iht ihe => exact ⟨⟨ihc.1, ihc.2, iht, ihe.1⟩, rfl⟩
  | elseBlock _ _ _ ihc iht ihe => exact ⟨⟨ihc.1, ihc.2, iht, ihe⟩, rfl⟩
  | op _ _ iha ihb => exact ⟨iha, ihb⟩
  | nil => exact trivial
  | cons _ _ _ ihe ihs => exact ⟨ihe, ihs⟩
  | single _ _ ihe => exact ⟨ihe, trivial⟩

structure ParserWF (f : Nat) : Prop where
  value : ∀ ts e r, parseValue f ts = some (e, r) → ts.head? ≠ some (.ident "if") → WF e ∧ level e = 0
  conjunct : ∀ ts e r, parseConjunct f ts = some (e, r) → WF e ∧ level e ≤ 1
  disjunct : ∀ ts e r, parseDisjunct f ts = some (e, r) → WF e ∧ level e ≤ 2
  expression : ∀ ts e r, parseExpression f ts = some (e, r) → WF e
  conditional : ∀ ts e r, parseConditional f ts = some (e, r) → WF e ∧ level e = 1
  condition : ∀ ts a o b r, parseCondition f ts = some ((a, o, b), r) → WF a ∧ WF b
  sequence : ∀ ts es r, parseSequence f ts = some (es, r) → WFs es

theorem parserWF (f : Nat) : ParserWF f where
  value ts e r h hif := (parse_sound f .value ts e r h).wf fun r' hr => hif (by rw [hr]; rfl)
  conjunct ts e r h := (parse_sound f .conjunct ts e r h).wf
  disjunct ts e r h := (parse_sound f .disjunct ts e r h).wf
  expression ts e r h := (parse_sound f .expression ts e r h).wf
  conditional ts e r h := (parse_sound f .conditional ts e r h).wf
  condition ts a o b r h := (parse_sound f .condition ts (a, o, b) r h).wf
  sequence ts es r h := (parse_sound f .sequence ts es r h).wf

end Just.Syntax
