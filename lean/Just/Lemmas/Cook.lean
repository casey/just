import Just.Model.Cook
/-
About `Just.Cook` (`Parser::cook_string`): the `unwrap` of `u32::from_str_radix(hex, 16)` is never reached
(`cookLoop_no_unwrap`), because the state `unicodeValue` only ever holds hexadecimal digits (`StateOK`, kept by `step_good`).
-/
namespace Just.Cook

theorem hexDigit_of_isHex (c : Char) (h : isHex c = true) : (hexDigit c).isSome := by
  unfold hexDigit
  split; · rfl
  split; · rfl
  split; · rfl
  simp_all [isHex]

theorem hexValAux_isSome (hex : List Char) (acc : Nat) (h : ∀ c ∈ hex, isHex c = true) : (hexValAux hex acc).isSome := by
  induction hex generalizing acc with
  | nil => rfl
  | cons c cs ih =>
    obtain ⟨d, hd⟩ := Option.isSome_iff_exists.mp (hexDigit_of_isHex c (h c (.head _)))
    simp only [hexValAux, hd]
    exact ih _ fun x hx => h x (.tail _ hx)

/-- the scan only ever collects hexadecimal digits -/
def StateOK : State → Prop
  | .unicodeValue hex => ∀ c ∈ hex, isHex c = true
  | _ => True

def Good : Except Err (State × List Char) → Prop
  | .ok (st, _) => StateOK st
  | .error e => e ≠ .unwrapFailed

theorem step_good (st : State) (c : Char) (hs : StateOK st) : Good (step st c) := by
  fun_cases step st c <;> simp_all [Good, StateOK]
  · -- the unwrap: a non-empty run of hexadecimal digits is a number
    rename_i hex _ hne hv
    have := hexValAux_isSome hex 0 hs
    rw [hexVal, if_neg (by simpa using hne)] at hv
    rw [hv] at this; cases this
  · rintro x (hx | rfl)
    · exact hs x hx
    · assumption

theorem cookLoop_no_unwrap (st : State) (text acc : List Char) (hs : StateOK st) :
    cookLoop st text acc ≠ .error .unwrapFailed := by
  fun_induction cookLoop st text acc
  case case1 | case2 | case3 => nofun
  case case4 st c _ _ e he => have := step_good st c hs; rw [he] at this; exact fun h => this (by cases h; rfl)
  case case5 st c _ _ st' out he ih => have := step_good st c hs; rw [he] at this; exact ih this

end Just.Cook
