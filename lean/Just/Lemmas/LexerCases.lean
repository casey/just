import Just.Model.Lexer
/-
What the lexer model does, apart from any property: the table of string delimiters behind
`isDelimiterStart`, what `Lexer::error` returns, and the case analyses of `lexOther`, `delimiterAction`
and `classify`, each done once.
-/
namespace Just.Lexer

/-- `StringKind::ALL`: delimiter, token kind, whether escapes are processed; indented forms first -/
def stringKinds : List (List Char × Kind × Bool) :=
  [(['`', '`', '`'], .backtick, false), (['`'], .backtick, false), (['"', '"', '"'], .stringToken, true),
   (['"'], .stringToken, true), (['\'', '\'', '\''], .stringToken, false), (['\''], .stringToken, false)]

theorem find?_cons_ite {α : Type} (p : α → Bool) (a : α) (as : List α) :
    (a :: as).find? p = if p a then some a else as.find? p := by
  rw [List.find?_cons]; split <;> simp [*]

theorem isDelimiterStart_eq_find (cs : List Char) :
    isDelimiterStart cs = stringKinds.find? (fun x => x.1.isPrefixOf cs) := by
  simp only [isDelimiterStart, stringKinds, find?_cons_ite, List.find?_nil]

theorem stringKinds_spec : ∀ x ∈ stringKinds,
    (x.1.head? = some '`' ∨ x.1.head? = some '"' ∨ x.1.head? = some '\'') ∧ (isDelimiterStart x.1).isSome = true := by
  decide

theorem prefix_split {p cs : List Char} (h : p.isPrefixOf cs = true) : ∃ m, cs = p ++ m := by
  obtain ⟨m, hm⟩ := List.isPrefixOf_iff_prefix.mp h
  exact ⟨m, hm.symm⟩

theorem isDelimiterStart_some {cs d : List Char} {k : Kind} {b : Bool} (h : isDelimiterStart cs = some (d, k, b)) :
    (d, k, b) ∈ stringKinds ∧ ∃ m, cs = d ++ m := by
  rw [isDelimiterStart_eq_find] at h
  exact ⟨List.mem_of_find?_eq_some h,
    prefix_split (List.find?_some (p := fun x : List Char × Kind × Bool => x.1.isPrefixOf cs) h)⟩

theorem isDelimiterStart_prefix {cs d : List Char} {k : Kind} {b : Bool}
    (h : isDelimiterStart cs = some (d, k, b)) : ∃ m, cs = d ++ m :=
  (isDelimiterStart_some h).2

theorem isDelimiterStart_delim {l d : List Char} {k : Kind} {b : Bool} (h : isDelimiterStart l = some (d, k, b)) :
    (isDelimiterStart d).isSome = true :=
  (stringKinds_spec _ (isDelimiterStart_some h).1).2

theorem isDelimiterStart_cons {cs d : List Char} {k : Kind} {b : Bool}
    (h : isDelimiterStart cs = some (d, k, b)) : ∃ c r, d = c :: r := by
  have := (stringKinds_spec _ (isDelimiterStart_some h).1).1
  cases d with
  | nil => simp at this
  | cons c r => exact ⟨c, r, rfl⟩

theorem isDelimiterStart_isSome (l : List Char) :
    (isDelimiterStart l).isSome = true ↔ (l.head? = some '`' ∨ l.head? = some '"' ∨ l.head? = some '\'') := by
  constructor
  · intro h
    obtain ⟨⟨d, k, b⟩, hd⟩ := Option.isSome_iff_exists.mp h
    obtain ⟨hmem, m, rfl⟩ := isDelimiterStart_some hd
    obtain ⟨c, r, rfl⟩ := isDelimiterStart_cons hd
    exact (stringKinds_spec _ hmem).1
  · intro h
    rw [isDelimiterStart_eq_find, List.find?_isSome]
    cases l with
    | nil => simp at h
    | cons c cs =>
      simp only [List.head?_cons, Option.some.injEq] at h
      rcases h with rfl | rfl | rfl
      · exact ⟨_, .tail _ (.head _), by simp⟩
      · exact ⟨_, .tail _ (.tail _ (.tail _ (.head _))), by simp⟩
      · exact ⟨_, .tail _ (.tail _ (.tail _ (.tail _ (.tail _ (.head _))))), by simp⟩

def ErrKind.isDiagnostic : ErrKind → Bool
  | .internal _ | .fuel => false
  | _ => true

/-- errors about anything but strings never fall back to the internal error of `Lexer::error` -/
def plainKind : ErrKind → Bool
  | .internal _ | .fuel | .unterminatedString | .unterminatedBacktick => false
  | _ => true

/-- `Lexer::error` keeps the kind and points at the token in progress, or at its opening delimiter for an unterminated
string; if such a token does not begin with a delimiter the error is an internal one -/
theorem mkError_cases (k : ErrKind) (s : St) :
    (∃ l m, s.cur.reverse = l ++ m ∧
      mkError k s = ⟨k, .unspecified, s.tokStart.offset, utf8Len l, s.tokStart.line, s.tokStart.column⟩) ∨
    (plainKind k = false ∧ isDelimiterStart s.cur.reverse = none ∧
      mkError k s = internalError "Lexer::error: expected string or backtick token start" s) := by
  unfold mkError errorLexeme
  cases k
  case unterminatedString | unterminatedBacktick =>
    cases hd : isDelimiterStart s.cur.reverse with
    | none => exact .inr ⟨rfl, rfl, rfl⟩
    | some v =>
      obtain ⟨m, hm⟩ := isDelimiterStart_prefix hd
      exact .inl ⟨_, m, hm, rfl⟩
  all_goals exact .inl ⟨_, [], (List.append_nil _).symm, rfl⟩

def stringErrKind (kind : Kind) : ErrKind :=
  if kind = .backtick then ErrKind.unterminatedBacktick else ErrKind.unterminatedString

theorem stringErrKind_cases (kind : Kind) :
    stringErrKind kind = .unterminatedString ∨ stringErrKind kind = .unterminatedBacktick := by
  unfold stringErrKind; split
  · exact .inr rfl
  · exact .inl rfl

def isDelimiterKind : Kind → Bool
  | .braceL | .braceR | .bracketL | .bracketR | .parenL | .parenR => true
  | _ => false

theorem ite_elim {α : Sort _} {P : α → Prop} {c : Prop} [Decidable c] {a b : α} (ha : c → P a) (hb : ¬c → P b) :
    P (if c then a else b) := by
  split
  · exact ha ‹_›
  · exact hb ‹_›

theorem lexOther_cases {P : M Unit → Prop} (s : St) (c : Char)
    (include_ : P (failWith (mkError .include)))
    (choices : ∀ cs o, P (lexChoices c cs o))
    (comment : c = '#' → P lexComment)
    (single : ∀ k, P (lexSingle k))
    (digraph : ∀ k, P (lexDigraph c c k))
    (delimiter : ∀ k, isDelimiterKind k = true → P (lexDelimiter k))
    (colon : c = ':' → P lexColon)
    (escape : c = '\\' → P lexEscape)
    (eol : c = '\n' ∨ c = '\r' → P lexEol)
    (string : c = '`' ∨ c = '"' ∨ c = '\'' → P lexString)
    (identifier : isIdentifierStart c = true → P lexIdentifier)
    (unknown : P (do advance; failWith (mkError .unknownStartOfToken))) : P (lexOther s c) := by
  unfold lexOther
  refine ite_elim (fun hc => ?_) fun _ => ?_
  · subst hc; exact ite_elim (fun _ => include_) fun _ => choices _ _
  refine ite_elim comment fun _ => ?_
  refine ite_elim (fun _ => single _) fun _ => ?_
  refine ite_elim (fun hc => hc ▸ digraph _) fun _ => ?_
  refine ite_elim (fun _ => delimiter _ rfl) fun _ => ?_
  refine ite_elim (fun _ => delimiter _ rfl) fun _ => ?_
  refine ite_elim (fun _ => single _) fun _ => ?_
  refine ite_elim (fun _ => single _) fun _ => ?_
  refine ite_elim (fun _ => single _) fun _ => ?_
  refine ite_elim (fun _ => single _) fun _ => ?_
  refine ite_elim colon fun _ => ?_
  refine ite_elim (fun hc => hc ▸ choices _ _) fun _ => ?_
  refine ite_elim (fun _ => single _) fun _ => ?_
  refine ite_elim (fun _ => single _) fun _ => ?_
  refine ite_elim (fun _ => delimiter _ rfl) fun _ => ?_
  refine ite_elim escape fun _ => ?_
  refine ite_elim (fun hc => eol (by simpa using hc)) fun _ => ?_
  refine ite_elim (fun _ => single _) fun _ => ?_
  refine ite_elim (fun _ => delimiter _ rfl) fun _ => ?_
  refine ite_elim (fun hc => string (by simpa [or_assoc] using hc)) fun _ => ?_
  refine ite_elim (fun _ => delimiter _ rfl) fun _ => ?_
  refine ite_elim (fun hc => hc ▸ digraph _) fun _ => ?_
  refine ite_elim (fun _ => delimiter _ rfl) fun _ => ?_
  exact ite_elim identifier fun _ => unknown

theorem delimiterAction_cases {P : M Unit → Prop} (opens : ∀ d, P (openDelimiter d)) (closes : ∀ d, P (closeDelimiter d)) :
    (k : Kind) → isDelimiterKind k = true → P (delimiterAction k)
  | .braceL, _ => opens _
  | .braceR, _ => closes _
  | .bracketL, _ => opens _
  | .bracketR, _ => closes _
  | .parenL, _ => opens _
  | .parenR, _ => closes _

theorem dedentAll_eq (st : List (List Char)) : dedentAll st = dedentUntil [] st := by
  induction st with
  | nil => rfl
  | cons top below ih => simp only [dedentAll, dedentUntil, ih, List.isEmpty_iff]

theorem okInterp_iff {s : St} {f : Frame} :
    okInterp s f = true ↔ ∀ t ∈ f.interp, t ∈ s.interp ∨ s.tokens.head? = some t := by
  simp [okInterp]

/-- the decision cascade of `classify` on its seven tests: which tests a result implies -/
theorem classify_cascade {p1 p2 p3 p4 p5 p6 p7 : Prop} [Decidable p1] [Decidable p2] [Decidable p3] [Decidable p4]
    [Decidable p5] [Decidable p6] [Decidable p7] {i : Indentation}
    (h : (if p1 then .blank else if p2 then .continue_ else if p3 then .decrease else if p4 then .continue_
      else if p5 then .mixed else if p6 then .inconsistent else if p7 then .inconsistent else .increase) = i) :
    (i = .continue_ → p2 ∨ p4) ∧ (i = .decrease → p3) ∧ (i = .increase → ¬p3) := by
  subst h
  by_cases h1 : p1; · simp [h1]
  by_cases h2 : p2; · simp [h1, h2]
  by_cases h3 : p3; · simp [h1, h2, h3]
  by_cases h4 : p4; · simp [h1, h2, h3, h4]
  by_cases h5 : p5; · simp [h1, h2, h3, h4, h5]
  by_cases h6 : p6; · simp [h1, h2, h3, h4, h5, h6]
  by_cases h7 : p7 <;> simp [h1, h2, h3, h4, h5, h6, h7]

theorem classify_spec (s : St) :
    ((classify s).1 = .continue_ →
      s.rest.takeWhile isBlankChar = topIndentation s ∨
      (s.recipeBody && (topIndentation s).isPrefixOf (s.rest.takeWhile isBlankChar)) = true) ∧
    ((classify s).1 = .decrease → s.indentation.contains (s.rest.takeWhile isBlankChar) = true) ∧
    ((classify s).1 = .increase → ¬ s.indentation.contains (s.rest.takeWhile isBlankChar) = true) :=
  classify_cascade (i := (classify s).1) rfl
end Just.Lexer
